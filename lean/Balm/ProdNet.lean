import Balm.Trans
/-!
# The union of two independent networks (C18)

`prodNet A B` is the network over `a + b` variables whose first `a` update functions are those of `A`
(reading the first `a` coordinates) and whose last `b` are those of `B`.  Its asynchronous transition
system is isomorphic to the asynchronous product `TSys.prod (tsOf A) (tsOf B)`; hence reachability is
component-wise and the attractors of the union are exactly the products of attractors of the parts
(`attr_prodNet`, `attr_prodNet_split`).
-/
namespace Balm

open TSys

variable {a b : Nat}

def leftS (s : State (a + b)) : State a := Vector.ofFn fun i => s[i.val]
def rightS (s : State (a + b)) : State b := Vector.ofFn fun i => s[a + i.val]
def joinS (x : State a) (y : State b) : State (a + b) :=
  Vector.ofFn fun i => if h : i.val < a then x[i.val] else y[i.val - a]

def prodNet (A : Net a) (B : Net b) : Net (a + b) where
  f := fun i s => if h : i.val < a then A.f ⟨i.val, h⟩ (leftS s) else B.f ⟨i.val - a, by omega⟩ (rightS s)

/-! `joinS` is core's `++`: `Vector.append_inj` and `Vector.set_append_left/right` then do the case
analysis on an index of `Fin (a + b)` that injectivity and the two step lemmas need. -/

section
open FinIdx

theorem joinS_eq_append (x : State a) (y : State b) : joinS x y = x ++ y :=
  Vector.ext fun i hi => by rw [joinS, Vector.getElem_ofFn, Vector.getElem_append]

theorem leftS_joinS (x : State a) (y : State b) : leftS (joinS x y) = x :=
  vec_ext fun j => by rw [joinS_eq_append, leftS, ofFn_get]; exact Vector.getElem_append_left j.isLt

theorem rightS_joinS (x : State a) (y : State b) : rightS (joinS x y) = y :=
  vec_ext fun k => by
    rw [joinS_eq_append, rightS, ofFn_get, Vector.getElem_append_right (by omega) (Nat.le_add_right ..)]
    simp only [Nat.add_sub_cancel_left]; rfl

theorem joinS_split (s : State (a + b)) : joinS (leftS s) (rightS s) = s :=
  Vector.ext fun i hi => by
    rw [joinS_eq_append, Vector.getElem_append, leftS, rightS]
    split
    · exact Vector.getElem_ofFn ..
    · rw [Vector.getElem_ofFn]; simp only [Nat.add_sub_cancel' (Nat.le_of_not_lt ‹_›)]

theorem joinS_inj {x x' : State a} {y y' : State b} (h : joinS x y = joinS x' y') : x = x' ∧ y = y' :=
  Vector.append_inj (by rwa [joinS_eq_append, joinS_eq_append] at h)

theorem prodNet_left (A : Net a) (B : Net b) (j : Fin a) (s : State (a + b)) :
    (prodNet A B).f (Fin.castAdd b j) s = A.f j (leftS s) :=
  dif_pos j.isLt

theorem prodNet_right (A : Net a) (B : Net b) (k : Fin b) (s : State (a + b)) :
    (prodNet A B).f (Fin.natAdd a k) s = B.f k (rightS s) :=
  (dif_neg (Nat.not_lt.2 (Nat.le_add_right a k))).trans
    (congrArg (B.f · _) (Fin.ext (Nat.add_sub_cancel_left ..)))

theorem step_joinS_left (A : Net a) (B : Net b) (x : State a) (y : State b) (j : Fin a) :
    step (prodNet A B) (joinS x y) (Fin.castAdd b j) = joinS (step A x j) y := by
  rw [step, prodNet_left, leftS_joinS, joinS_eq_append, joinS_eq_append]
  exact Vector.set_append_left j.isLt

theorem step_joinS_right (A : Net a) (B : Net b) (x : State a) (y : State b) (k : Fin b) :
    step (prodNet A B) (joinS x y) (Fin.natAdd a k) = joinS x (step B y k) := by
  rw [step, prodNet_right, rightS_joinS, joinS_eq_append, joinS_eq_append]
  refine (Vector.set_append_right (Nat.add_lt_add_left k.isLt a) (Nat.le_add_right ..)).trans ?_
  simp only [Nat.add_sub_cancel_left]; rfl

end

def prodIso (A : Net a) (B : Net b) : Iso (prod (tsOf A) (tsOf B)) (tsOf (prodNet A B)) where
  f := fun p => joinS p.1 p.2
  g := fun s => (leftS s, rightS s)
  gf := fun p => by rw [leftS_joinS, rightS_joinS]
  fg := joinS_split
  step := by
    rintro ⟨x, y⟩ ⟨x', y'⟩
    constructor
    · rintro (⟨⟨j, rfl⟩, rfl⟩ | ⟨rfl, ⟨k, rfl⟩⟩)
      · exact ⟨_, (step_joinS_left A B x y j).symm⟩
      · exact ⟨_, (step_joinS_right A B x y k).symm⟩
    · rintro ⟨i, hi⟩
      cases i using Fin.addCases with
      | left j =>
        obtain ⟨h1, h2⟩ := joinS_inj (hi.trans (step_joinS_left A B x y j))
        exact .inl ⟨⟨j, h1⟩, h2.symm⟩
      | right k =>
        obtain ⟨h1, h2⟩ := joinS_inj (hi.trans (step_joinS_right A B x y k))
        exact .inr ⟨h1.symm, ⟨k, h2⟩⟩

/-- **C18.** The product of an attractor of `A` and an attractor of `B` is an attractor
    of the union network … -/
theorem attr_prodNet (A : Net a) (B : Net b) (X : State a → Prop) (Y : State b → Prop)
    (hX : IsAttr A X) (hY : IsAttr B Y) : IsAttr (prodNet A B) (fun s => X (leftS s) ∧ Y (rightS s)) :=
  (isAttr_tsOf _ _).1 ((prodIso A B).attr _
    (attr_prod_of (tsOf A) (tsOf B) X Y ((isAttr_tsOf A X).2 hX) ((isAttr_tsOf B Y).2 hY)))

/-- … and every attractor of the union network is such a product. -/
theorem attr_prodNet_split (A : Net a) (B : Net b) (Z : State (a + b) → Prop) (hZ : IsAttr (prodNet A B) Z) :
    IsAttr A (fun x => ∃ y, Z (joinS x y)) ∧ IsAttr B (fun y => ∃ x, Z (joinS x y)) ∧
      ∀ s, Z s ↔ (∃ y, Z (joinS (leftS s) y)) ∧ (∃ x, Z (joinS x (rightS s))) := by
  obtain ⟨h1, h2, h3⟩ := attr_prod_iff (tsOf A) (tsOf B) _ ((prodIso A B).symm.attr Z ((isAttr_tsOf _ Z).2 hZ))
  refine ⟨(isAttr_tsOf A _).1 h1, (isAttr_tsOf B _).1 h2, fun s => ?_⟩
  have := h3 (leftS s, rightS s)
  rwa [show (prodIso A B).symm.g (leftS s, rightS s) = s from joinS_split s] at this

end Balm
