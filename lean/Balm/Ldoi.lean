import Balm.Perc
namespace Balm

variable {n : Nat} (N : Net n) (C : ConstOn N)

def override (d : Space n) : Net n :=
  { f := fun i s => match d[i] with | some b => b | none => N.f i s }

/-- `T ∪ d`, the `driver_dict | assume_fixed` of `find_drivers`: on a variable that both fix, `T` wins -/
def withDrivers (T d : Space n) : Space n :=
  Vector.ofFn fun i => match T[i] with | some b => some b | none => d[i]

section
open FinIdx

theorem override_f_of_none {d : Space n} {i : Fin n} (h : d[i] = none) : (override N d).f i = N.f i := by
  funext s; simp only [override]; rw [h]

theorem override_f_of_some {d : Space n} {i : Fin n} {b : Bool} (h : d[i] = some b) (s : State n) :
    (override N d).f i s = b := by
  simp only [override]; rw [h]

variable {T d : Space n} {i : Fin n}

theorem withDrivers_get : (withDrivers T d)[i] = (T[i]).or d[i] := by
  rw [withDrivers, ofFn_get]; cases T[i] <;> rfl

theorem withDrivers_eq_none : (withDrivers T d)[i] = none ↔ T[i] = none ∧ d[i] = none := by
  rw [withDrivers_get, Option.or_eq_none_iff]

theorem mem_withDrivers {s : State n} :
    (withDrivers T d).Mem s ↔ T.Mem s ∧ ∀ (i : Fin n) b, T[i] = none → d[i] = some b → s[i] = b := by
  simp only [Space.Mem, withDrivers_get, Option.or_eq_some_iff]
  exact ⟨fun h => ⟨fun i b hi => h i b (.inl hi), fun i b hT hd => h i b (.inr ⟨hT, hd⟩)⟩,
    fun h i b hi => hi.elim (h.1 i b) fun hi => h.2 i b hi.1 hi.2⟩

end

theorem trap_override (T d : Space n) (hT : TrapSpace N T)
    (hd : ∀ (i : Fin n) (b : Bool), d[i] = some b → T[i] = none) : TrapSpace (override N d) T := by
  rw [trapSpace_iff] at hT ⊢
  intro j b hj s hs
  rw [override_f_of_none N (Option.eq_none_iff_forall_ne_some.2 fun b0 h0 => by rw [hd j b0 h0] at hj; cases hj)]
  exact hT j b hj s hs

/-- **C06 core.** `T` a trap space of `N`, `d` driver values on variables free in `T`.  Every attractor of the
    overridden network that lies in `T` (as does every attractor reachable from `T`: `trap_override`) lies in every
    iterate of the percolation *in the original network* of `T ∪ d`, hence satisfies every literal of a motif
    contained in `percolate N (T ∪ d)`: the acceptance test of `find_drivers`.  Neither `_hT` nor `hd` is used:
    where `T` and `d` disagree, `withDrivers` keeps the value of `T`. -/
theorem ldoi_sound (T d : Space n) (_hT : TrapSpace N T)
    (hd : ∀ (i : Fin n) (b : Bool), d[i] = some b → T[i] = none)
    (A : State n → Prop) (hA : IsAttr (override N d) A) (hAT : ∀ s, A s → T.Mem s) :
    ∀ k, ∀ s, A s → (percIter N C k (withDrivers T d)).Mem s := fun k =>
  -- a variable free in `T ∪ d` is not overridden; an overridden one has a constant function
  attr_in_percIter_of_agree N C (override N d) k _
    (fun _ hi => override_f_of_none N (withDrivers_eq_none.1 hi).2) A hA fun s hs =>
    mem_withDrivers.2 ⟨hAT s hs, fun i b _ hdi =>
      attr_const _ A hA i b (fun u _ => override_f_of_some N hdi u) s hs⟩

end Balm
