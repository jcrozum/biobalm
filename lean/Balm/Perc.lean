import Balm.Dynamics
/-! Percolation against an abstract constancy oracle: `percStep`, its iterates (`percIter_induction`),
the least-fixed-point property `percIter_least`, the bound `free p` on the number of rounds, and monotonicity of
the limit on trap spaces (`percolate_mono`). -/
namespace Balm

structure ConstOn {n} (N : Net n) where
  c : Fin n → Space n → Option Bool
  spec : ∀ i p b, c i p = some b ↔ ∀ s, p.Mem s → N.f i s = b

variable {n : Nat} (N : Net n) (C : ConstOn N)

theorem ConstOn.mono {N : Net n} (C : ConstOn N) {p q : Space n} (h : p.Ext q) {i : Fin n} {b : Bool}
    (hc : C.c i p = some b) : C.c i q = some b :=
  (C.spec i q b).2 fun s hs => (C.spec i p b).1 hc s (Space.Mem.of_ext h hs)

def percStep (p : Space n) : Space n :=
  Vector.ofFn fun i => match p[i] with
    | some b => some b
    | none => C.c i p

/-- everything the oracle derives on `q` is fixed in `q`, to the derived value unless `p` gave the variable a
    (possibly conflicting) value -/
def ClosedOver (p q : Space n) : Prop :=
  ∀ i b, C.c i q = some b → ∃ b', q[i] = some b' ∧ (p[i] = none → b' = b)

open FinIdx

theorem percStep_eq_some {p : Space n} {i : Fin n} {b : Bool} :
    (percStep N C p)[i] = some b ↔ p[i] = some b ∨ (p[i] = none ∧ C.c i p = some b) := by
  rw [percStep, ofFn_get]; cases p[i] <;> simp

theorem percStep_ext (p : Space n) : p.Ext (percStep N C p) :=
  fun _ _ h => (percStep_eq_some N C).2 (Or.inl h)

theorem percStep_ext_of_closed (p q : Space n) (hpq : p.Ext q) (hq : ClosedOver N C p q) :
    (percStep N C p).Ext q := by
  intro i b h
  rcases (percStep_eq_some N C).1 h with h | ⟨hp, h⟩
  · exact hpq i b h
  · obtain ⟨b', hb', hbb⟩ := hq i b (C.mono hpq h)
    rw [hb', hbb hp]

theorem percStep_trap (p : Space n) (hp : TrapSpace N p) : TrapSpace N (percStep N C p) := by
  rw [trapSpace_iff] at hp ⊢
  intro i b hi s hs
  have hsp : p.Mem s := Space.Mem.of_ext (percStep_ext N C p) hs
  rcases (percStep_eq_some N C).1 hi with hi | ⟨_, hi⟩
  · exact hp i b hi s hsp
  · exact (C.spec i p b).1 hi s hsp

/-- Two networks, so that `ldoi_sound` can take the overridden network for `N'`; `q` need not be a trap space. -/
theorem attr_in_percStep_of_agree (N' : Net n) (q : Space n) (hN : ∀ i, q[i] = none → N'.f i = N.f i)
    (A : State n → Prop) (hA : IsAttr N' A) (hAq : ∀ s, A s → q.Mem s) :
    ∀ s, A s → (percStep N C q).Mem s := by
  intro s hs j b hj
  rcases (percStep_eq_some N C).1 hj with hj | ⟨hq, hj⟩
  · exact hAq s hs j b hj
  · exact attr_const N' A hA j b (fun u hu => by rw [hN j hq]; exact (C.spec j q b).1 hj u (hAq u hu)) s hs

def percIter : Nat → Space n → Space n
  | 0, p => p
  | k+1, p => percIter k (percStep N C p)

theorem percIter_induction {P : Space n → Prop} (hstep : ∀ q, P q → P (percStep N C q)) :
    ∀ (k : Nat) (p : Space n), P p → P (percIter N C k p)
  | 0, _, h => h
  | k+1, p, h => percIter_induction hstep k _ (hstep p h)

theorem percIter_ext (k : Nat) (p : Space n) : p.Ext (percIter N C k p) :=
  percIter_induction N C (P := p.Ext) (fun q h => h.trans (percStep_ext N C q)) k p (Space.Ext.refl p)

theorem percIter_trap (k : Nat) (p : Space n) (hp : TrapSpace N p) : TrapSpace N (percIter N C k p) :=
  percIter_induction N C (percStep_trap N C) k p hp

theorem attr_in_percIter_of_agree (N' : Net n) (k : Nat) (q : Space n)
    (hN : ∀ i, q[i] = none → N'.f i = N.f i)
    (A : State n → Prop) (hA : IsAttr N' A) (hAq : ∀ s, A s → q.Mem s) :
    ∀ s, A s → (percIter N C k q).Mem s :=
  -- what is free after a step was free before it, so `N'` still agrees with `N` there
  (percIter_induction N C (P := fun q => (∀ i, q[i] = none → N'.f i = N.f i) ∧ ∀ s, A s → q.Mem s)
    (fun q h => ⟨fun i hi => h.1 i ((percStep_ext N C q).get_none hi), attr_in_percStep_of_agree N C N' q h.1 A hA h.2⟩)
    k q ⟨hN, hAq⟩).2

/- `hp` is not used: `attr_in_percIter_of_agree` needs no trap space. -/
theorem attr_in_percIter (k : Nat) (p : Space n) (hp : TrapSpace N p) (A : State n → Prop)
    (hA : IsAttr N A) (hAp : ∀ s, A s → p.Mem s) : ∀ s, A s → (percIter N C k p).Mem s :=
  attr_in_percIter_of_agree N C N k p (fun _ _ => rfl) A hA hAp

theorem ClosedOver.mono {p r q : Space n} (h : ClosedOver N C p q) (hpr : p.Ext r) : ClosedOver N C r q :=
  fun i b hc => (h i b hc).imp fun _ hb => ⟨hb.1, fun hr => hb.2 (hpr.get_none hr)⟩

theorem percIter_least (k : Nat) (p q : Space n) (hpq : p.Ext q) (hq : ClosedOver N C p q) :
    (percIter N C k p).Ext q :=
  (percIter_induction N C (P := fun r => r.Ext q ∧ ClosedOver N C r q)
    (fun r h => ⟨percStep_ext_of_closed N C r q h.1 h.2, h.2.mono N C (percStep_ext N C r)⟩) k p ⟨hpq, hq⟩).1

theorem percIter_of_fixed (k : Nat) (p : Space n) (h : percStep N C p = p) : percIter N C k p = p :=
  percIter_induction N C (P := (· = p)) (fun q hq => by rw [hq, h]) k p rfl

/-- termination of percolation with an explicit bound (C11, C13) -/
theorem percIter_fixed (k : Nat) (p : Space n) (hk : free p ≤ k) :
    percStep N C (percIter N C k p) = percIter N C k p := by
  induction k generalizing p with
  | zero =>
    apply Classical.byContradiction; intro hne
    have := free_lt_of_le_ne (percStep_ext N C p) hne
    omega
  | succ k ih =>
    by_cases hfix : percStep N C p = p
    · rw [percIter_of_fixed N C (k+1) p hfix]; exact hfix
    · have := free_lt_of_le_ne (percStep_ext N C p) hfix
      exact ih (percStep N C p) (by omega)

def percolate (p : Space n) : Space n := percIter N C n p

theorem percolate_fixed (p : Space n) : percStep N C (percolate N C p) = percolate N C p :=
  percIter_fixed N C n p (free_le p)

theorem percolate_idem (p : Space n) : percolate N C (percolate N C p) = percolate N C p :=
  percIter_of_fixed N C n _ (percolate_fixed N C p)

theorem ClosedOver.of_trap_fixed {q : Space n} (hq : TrapSpace N q) (hfix : percStep N C q = q)
    (base : Space n) : ClosedOver N C base q := by
  intro i b hc
  cases hqi : q[i] with
  | none =>
    have := (percStep_eq_some N C).2 (Or.inr ⟨hqi, hc⟩)
    rw [hfix, hqi] at this; cases this
  | some b' =>
    refine ⟨b', rfl, fun _ => ?_⟩
    -- `f i` is constantly `b` on `q`, which fixes `i` to `b'` and is a trap space
    obtain ⟨s, hs⟩ := Space.exists_mem q
    rw [← (C.spec i q b).1 hc s hs]
    exact ((trapSpace_iff N q).1 hq i b' hqi s hs).symm

theorem percolate_mono {p q : Space n} (hp : TrapSpace N p) (hle : p.le q) :
    (percolate N C p).le (percolate N C q) :=
  -- `percolate p` is a closed extension of `q`, and `percolate q` is the least one
  percIter_least N C n q _ (Space.Ext.trans hle (percIter_ext N C n p))
    (.of_trap_fixed N C (percIter_trap N C n p hp) (percolate_fixed N C p) q)

end Balm
