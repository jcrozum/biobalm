import Balm.Dynamics
/-!
# Update expressions

The syntax of update functions as biobalm receives them from AEON (`BooleanExpression`:
constants, variables, `!`, `&`, `|`, `^`, `<=>`, `=>`, conditional), with a total evaluator.
`Net.ofExprs` turns a vector of expressions into the semantic network (`Net n`) all theorems
of `Balm` are stated about.  The harness sends expressions in prefix notation; the translation
on the Python side is cross-checked against truth tables extracted through AEON's BDDs.
-/
namespace Balm

inductive BExpr where
  | const (b : Bool)
  | var (i : Nat)
  | not (e : BExpr)
  | and (a b : BExpr)
  | or (a b : BExpr)
  | xor (a b : BExpr)
  | iff (a b : BExpr)
  | imp (a b : BExpr)
  | cond (c t e : BExpr)
  deriving Repr, Inhabited

namespace BExpr

/-- total evaluation; a variable index outside the state reads `false` (never produced by the
    harness: every index comes from the network's own variable list) -/
def eval {n : Nat} : BExpr → State n → Bool
  | .const b, _ => b
  | .var i, s => if h : i < n then s[i] else false
  | .not e, s => !(eval e s)
  | .and a b, s => eval a s && eval b s
  | .or a b, s => eval a s || eval b s
  | .xor a b, s => eval a s != eval b s
  | .iff a b, s => eval a s == eval b s
  | .imp a b, s => !(eval a s) || eval b s
  | .cond c t e, s => if eval c s then eval t s else eval e s

def vars : BExpr → List Nat
  | .const _ => []
  | .var i => [i]
  | .not e => vars e
  | .and a b | .or a b | .xor a b | .iff a b | .imp a b => vars a ++ vars b
  | .cond c t e => vars c ++ vars t ++ vars e

theorem eval_congr {n : Nat} (e : BExpr) (s t : State n)
    (h : ∀ i ∈ e.vars, ∀ hi : i < n, s[i] = t[i]) : e.eval s = e.eval t := by
  induction e with
  | const b => rfl
  | var i => exact dite_congr rfl (h i (List.mem_singleton.2 rfl)) fun _ => rfl
  | not e ih => exact congrArg (!·) (ih h)
  | and a b iha ihb | or a b iha ihb | xor a b iha ihb | iff a b iha ihb | imp a b iha ihb =>
    obtain ⟨ha, hb⟩ := List.forall_mem_append.1 h
    simp only [eval, iha ha, ihb hb]
  | cond c t e ihc iht ihe =>
    obtain ⟨hct, he⟩ := List.forall_mem_append.1 h
    obtain ⟨hc, ht⟩ := List.forall_mem_append.1 hct
    simp only [eval, ihc hc, iht ht, ihe he]

end BExpr

def Net.ofExprs {n : Nat} (es : Vector BExpr n) : Net n where
  f := fun i s => (es[i]).eval s

/-- **C17 (equivalent formulas).** Two vectors of update expressions that evaluate equally on every
    state denote the *same* semantic network – so everything the model computes from the network
    (percolation, trap spaces, diagram, attractors, control) is identical for them. -/
theorem Net.ofExprs_congr {n : Nat} (es es' : Vector BExpr n)
    (h : ∀ (i : Fin n) (s : State n), (es[i]).eval s = (es'[i]).eval s) :
    Net.ofExprs es = Net.ofExprs es' :=
  congrArg Net.mk (funext fun i => funext (h i))

/-- e.g. De Morgan and double negation do not change the network -/
example : Net.ofExprs (n := 2) #v[.not (.or (.not (.var 0)) (.not (.var 1))), .not (.not (.var 0))]
    = Net.ofExprs #v[.and (.var 0) (.var 1), .var 0] := by
  apply Net.ofExprs_congr
  intro i s
  match i with
  | ⟨0, _⟩ => simp [BExpr.eval]
  | ⟨1, _⟩ => simp [BExpr.eval]

end Balm
