import Balm.Dynamics
/-!
# Transition systems: isomorphisms (C17) and independent products (C18)

"Results do not depend on the presentation" and "results compose across independent sub-networks", stated for
arbitrary transition systems: a state bijection that commutes with the one-step relation preserves reachability
and attractors (variable renaming, declaration reordering and encoding a variable by its negation all induce
one), and in the asynchronous product reachability is component-wise and the attractors are exactly the products
of attractors of the components.  `tsOf N` is the transition system of a network, so both apply to `Net`.
-/
namespace Balm.TSys

structure TS (α : Type) where
  step : α → α → Prop

variable {α β : Type}

inductive Reach (A : TS α) : α → α → Prop
  | refl (a) : Reach A a a
  | tail {a b c} : Reach A a b → A.step b c → Reach A a c

theorem Reach.trans {A : TS α} {a b c : α} (h1 : Reach A a b) (h2 : Reach A b c) : Reach A a c := by
  induction h2 with
  | refl => exact h1
  | tail _ hs ih => exact Reach.tail ih hs

theorem Reach.single {A : TS α} {a b : α} (hs : A.step a b) : Reach A a b := Reach.tail (Reach.refl a) hs

theorem Reach.head {A : TS α} {a b c : α} (hs : A.step a b) (h : Reach A b c) : Reach A a c :=
  Reach.trans (Reach.single hs) h

theorem Reach.map {A : TS α} {B : TS β} (f : α → β) {a a' : α} (h : Reach A a a')
    (hf : ∀ a a', A.step a a' → Reach B (f a) (f a')) : Reach B (f a) (f a') := by
  induction h with
  | refl => exact Reach.refl _
  | tail _ hs ih => exact ih.trans (hf _ _ hs)

def IsAttr (A : TS α) (X : α → Prop) : Prop :=
  (∃ a, X a) ∧ ∀ a, X a → ∀ b, (X b ↔ Reach A a b)

structure Iso (A : TS α) (B : TS β) where
  f : α → β
  g : β → α
  gf : ∀ a, g (f a) = a
  fg : ∀ b, f (g b) = b
  step : ∀ a a', A.step a a' ↔ B.step (f a) (f a')

def Iso.symm {A : TS α} {B : TS β} (φ : Iso A B) : Iso B A where
  f := φ.g
  g := φ.f
  gf := φ.fg
  fg := φ.gf
  step := fun b b' => by rw [φ.step, φ.fg, φ.fg]

theorem Iso.reach {A : TS α} {B : TS β} (φ : Iso A B) (a a' : α) :
    Reach A a a' ↔ Reach B (φ.f a) (φ.f a') := by
  refine ⟨fun h => h.map φ.f fun _ _ hs => .single ((φ.step _ _).1 hs), fun h => ?_⟩
  have := h.map φ.g fun _ _ hs => .single ((φ.symm.step _ _).1 hs)
  rwa [φ.gf, φ.gf] at this

/-- **C17.** A state bijection that commutes with the dynamics maps attractors to attractors. -/
theorem Iso.attr {A : TS α} {B : TS β} (φ : Iso A B) (X : α → Prop) (hX : IsAttr A X) :
    IsAttr B (fun b => X (φ.g b)) := by
  obtain ⟨⟨a0, ha0⟩, hcl⟩ := hX
  refine ⟨⟨φ.f a0, by simpa [φ.gf] using ha0⟩, fun b hb b' => ?_⟩
  have := hcl (φ.g b) hb (φ.g b')
  rwa [φ.reach, φ.fg, φ.fg] at this

def prod (A : TS α) (B : TS β) : TS (α × β) where
  step := fun p q => (A.step p.1 q.1 ∧ p.2 = q.2) ∨ (p.1 = q.1 ∧ B.step p.2 q.2)

/-- **C18.** Reachability in the product of two independent systems is component-wise. -/
theorem reach_prod (A : TS α) (B : TS β) (p q : α × β) :
    Reach (prod A B) p q ↔ Reach A p.1 q.1 ∧ Reach B p.2 q.2 := by
  constructor
  · intro h
    constructor
    · exact h.map (B := A) Prod.fst fun _ _ hs => hs.elim (fun hs => .single hs.1) (fun hs => hs.1 ▸ .refl _)
    · exact h.map (B := B) Prod.snd fun _ _ hs => hs.elim (fun hs => hs.2 ▸ .refl _) (fun hs => .single hs.2)
  · rintro ⟨h1, h2⟩
    -- first move the left component, then the right one
    exact (h1.map (B := prod A B) (·, p.2) fun _ _ hs => .single (.inl ⟨hs, rfl⟩)).trans
      (h2.map (B := prod A B) (q.1, ·) fun _ _ hs => .single (.inr ⟨rfl, hs⟩))

/-- **C18.** The product of an attractor of `A` and an attractor of `B` is an attractor of the
    product system … -/
theorem attr_prod_of (A : TS α) (B : TS β) (X : α → Prop) (Y : β → Prop)
    (hX : IsAttr A X) (hY : IsAttr B Y) : IsAttr (prod A B) (fun p => X p.1 ∧ Y p.2) := by
  obtain ⟨⟨a0, ha0⟩, hXc⟩ := hX
  obtain ⟨⟨b0, hb0⟩, hYc⟩ := hY
  refine ⟨⟨(a0, b0), ha0, hb0⟩, ?_⟩
  rintro ⟨a, b⟩ ⟨ha, hb⟩ ⟨a', b'⟩
  exact (and_congr (hXc a ha a') (hYc b hb b')).trans (reach_prod A B (a, b) (a', b')).symm

/-- … and every attractor of the product system is such a product. -/
theorem attr_prod_iff (A : TS α) (B : TS β) (Z : α × β → Prop) (hZ : IsAttr (prod A B) Z) :
    IsAttr A (fun a => ∃ b, Z (a, b)) ∧ IsAttr B (fun b => ∃ a, Z (a, b)) ∧
      ∀ p, Z p ↔ (∃ b, Z (p.1, b)) ∧ (∃ a, Z (a, p.2)) := by
  obtain ⟨⟨⟨a0, b0⟩, h0⟩, hcl⟩ := hZ
  replace hcl := fun p hp q => (hcl p hp q).trans (reach_prod A B p q)
  refine ⟨⟨⟨a0, b0, h0⟩, ?_⟩, ⟨⟨b0, a0, h0⟩, ?_⟩, ?_⟩
  · rintro a ⟨b, hab⟩ a'
    exact ⟨fun ⟨b', h⟩ => ((hcl _ hab _).1 h).1, fun hr => ⟨b, (hcl _ hab _).2 ⟨hr, .refl _⟩⟩⟩
  · rintro b ⟨a, hab⟩ b'
    exact ⟨fun ⟨a', h⟩ => ((hcl _ hab _).1 h).2, fun hr => ⟨a, (hcl _ hab _).2 ⟨.refl _, hr⟩⟩⟩
  · rintro ⟨a, b⟩
    refine ⟨fun h => ⟨⟨b, h⟩, ⟨a, h⟩⟩, fun ⟨⟨b', h1⟩, ⟨a', h2⟩⟩ => ?_⟩
    -- from `(a, b')` the state `(a', b)` is reachable, so `b' ↝ b`, so `(a, b)` is reachable too
    exact (hcl _ h1 _).2 ⟨.refl _, ((hcl _ h1 _).1 h2).2⟩

/-- asynchronous dynamics of a network as a transition system (self-loops `step s i = s` included,
    they change neither reachability nor attractors) -/
def tsOf {n : Nat} (N : Net n) : TS (State n) where
  step := fun s t => ∃ i, t = Balm.step N s i

theorem reach_tsOf {n : Nat} (N : Net n) (s t : State n) : Reach (tsOf N) s t ↔ Balm.Reach N s t := by
  constructor
  · intro h
    induction h with
    | refl => exact Balm.Reach.refl _
    | tail _ hs ih =>
      obtain ⟨i, rfl⟩ := hs
      exact Balm.Reach.tail i ih
  · exact Closed.reach (X := Reach (tsOf N) s) (fun _ hu i => .tail hu ⟨i, rfl⟩) (.refl s)

theorem isAttr_tsOf {n : Nat} (N : Net n) (X : State n → Prop) : IsAttr (tsOf N) X ↔ Balm.IsAttr N X := by
  unfold IsAttr Balm.IsAttr
  simp only [reach_tsOf]

theorem Iso.attr_net {n m : Nat} {N : Net n} {M : Net m} (φ : Iso (tsOf N) (tsOf M)) {X : State n → Prop}
    (hX : Balm.IsAttr N X) : Balm.IsAttr M (fun t => X (φ.g t)) :=
  (isAttr_tsOf M _).1 (φ.attr X ((isAttr_tsOf N X).2 hX))

def netIso {n m : Nat} {N : Net n} {M : Net m} (f : State n → State m) (g : State m → State n)
    (gf : ∀ s, g (f s) = s) (fg : ∀ t, f (g t) = t) (σ : Fin n → Fin m) (τ : Fin m → Fin n)
    (hσ : ∀ k, σ (τ k) = k) (hf : ∀ s j, f (step N s j) = step M (f s) (σ j)) : Iso (tsOf N) (tsOf M) where
  f := f
  g := g
  gf := gf
  fg := fg
  step := fun a a' => by
    constructor
    · rintro ⟨j, rfl⟩
      exact ⟨σ j, hf a j⟩
    · rintro ⟨k, hk⟩
      have := congrArg g (hf a (τ k))
      rw [hσ, ← hk, gf, gf] at this
      exact ⟨τ k, this.symm⟩

end Balm.TSys
