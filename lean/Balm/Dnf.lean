import Balm.Space
namespace Balm

variable {n : Nat}

/-- the tree of split variables chosen by `optimized_recursive_dnf_generator`
    (which variable is chosen depends on BDD sizes; the theorem holds for every tree) -/
inductive DT (n : Nat) where
  | leaf : DT n
  | node (v : Fin n) (t f : DT n) : DT n

def DT.vars : DT n → List (Fin n)
  | .leaf => []
  | .node v t f => v :: (t.vars ++ f.vars)

/-- a variable is never split twice on a path (the code picks from the support of the restricted BDD) -/
def DT.NoRepeat : DT n → Prop
  | .leaf => True
  | .node v t f => v ∉ t.vars ∧ v ∉ f.vars ∧ t.NoRepeat ∧ f.NoRepeat

def restrict (g : State n → Bool) (v : Fin n) (b : Bool) : State n → Bool :=
  fun s => g (s.set v b)

/-- the recursion stops exactly when the restricted function is constant -/
def DT.Complete : DT n → (State n → Bool) → Prop
  | .leaf, g => ∀ s t, g s = g t
  | .node v t f, g => t.Complete (restrict g v true) ∧ f.Complete (restrict g v false)

def top : Space n := Vector.replicate n none

/-- the generator: cubes of the `True` branch get `v := True`, cubes of the `False` branch `v := False` -/
def dnf (s0 : State n) : DT n → (State n → Bool) → List (Space n)
  | .leaf, g => if g s0 then [top] else []
  | .node v t f, g =>
    (dnf s0 t (restrict g v true)).map (fun c => c.set v (some true)) ++
    (dnf s0 f (restrict g v false)).map (fun c => c.set v (some false))

section
open FinIdx

theorem dnf_vars (s0 : State n) (T : DT n) (g : State n → Bool) (c : Space n)
    (hc : c ∈ dnf s0 T g) (j : Fin n) (hj : j ∉ T.vars) : c[j] = none := by
  fun_induction dnf s0 T g generalizing c with
  | case1 => cases List.mem_singleton.1 hc; exact Vector.getElem_replicate _
  | case2 => cases hc
  | case3 v t f g iht ihf =>
    simp only [DT.vars, List.mem_cons, List.mem_append, not_or] at hj
    simp only [List.mem_append, List.mem_map] at hc
    rcases hc with ⟨c', hc', rfl⟩ | ⟨c', hc', rfl⟩ <;> rw [set_get, if_neg hj.1]
    · exact iht c' hc' hj.2.1
    · exact ihf c' hc' hj.2.2

theorem restrict_self (g : State n → Bool) (v : Fin n) (s : State n) : restrict g v s[v] s = g s := by
  unfold restrict; rw [set_self]

theorem exists_mem_map_set (L : List (Space n)) (v : Fin n) (b : Bool) (hL : ∀ c ∈ L, c[v] = none)
    (s : State n) :
    (∃ c ∈ L.map (fun c => c.set v (some b)), Space.Mem c s) ↔ s[v] = b ∧ ∃ c ∈ L, c.Mem s := by
  simp only [List.mem_map]
  constructor
  · rintro ⟨_, ⟨c, hc, rfl⟩, hm⟩
    have := (Space.mem_set c v b (hL c hc) s).1 hm
    exact ⟨this.1, c, hc, this.2⟩
  · rintro ⟨hsv, c, hc, hm⟩
    exact ⟨_, ⟨c, hc, rfl⟩, (Space.mem_set c v b (hL c hc) s).2 ⟨hsv, hm⟩⟩

end

/-- **C10 core.** For every complete split tree without repeated variables the
    generated cubes are satisfied exactly by the models of the function. -/
theorem dnf_correct (s0 : State n) : ∀ (T : DT n) (g : State n → Bool), T.NoRepeat → T.Complete g →
    ∀ s, (∃ c ∈ dnf s0 T g, c.Mem s) ↔ g s = true := by
  intro T g hn hc s
  fun_induction dnf s0 T g with
  | case1 g h => exact ⟨fun _ => (hc s s0).trans h, fun _ => ⟨_, List.mem_singleton_self _, Space.mem_top s⟩⟩
  | case2 g h => exact ⟨fun ⟨_, hm, _⟩ => (nomatch hm), fun e => absurd ((hc s0 s).trans e) h⟩
  | case3 v t f g iht ihf =>
    -- a cube of the node holds in `s` iff it comes from the branch `s[v]` and holds there
    simp only [List.mem_append, or_and_right, exists_or]
    rw [exists_mem_map_set _ v true (fun c hc => dnf_vars s0 t _ c hc v hn.1),
      exists_mem_map_set _ v false (fun c hc => dnf_vars s0 f _ c hc v hn.2.1),
      iht hn.2.2.1 hc.1, ihf hn.2.2.2 hc.2, ← restrict_self g v s]
    open FinIdx in cases s[v] <;> simp

end Balm
