/-! States and spaces as vectors indexed by `Fin n`: reading and writing them, the order on spaces
(`Space.Ext`, `Space.le`) with the common state of two compatible spaces, and the rank `free`. -/
namespace Balm

abbrev State (n : Nat) := Vector Bool n
abbrev Space (n : Nat) := Vector (Option Bool) n

def Space.Mem {n} (p : Space n) (s : State n) : Prop :=
  ∀ (i : Fin n) (b : Bool), p[i] = some b → s[i] = b

def Space.Ext {n} (p q : Space n) : Prop :=
  ∀ (i : Fin n) (b : Bool), p[i] = some b → q[i] = some b

namespace FinIdx

/-- `v[i]` and `v.set i x` with `i : Fin n` need the bound `↑i < n`.  Core finds it only after `trivial`,
    `simp +arith` and a series of rewriting attempts over the whole context have failed, which is slow, and
    slower in a long proof.  With this namespace open `i.isLt` is tried first (where it does not fit, core's
    search runs as before).  The bound becomes part of the elaborated term, so a definition of the model or a
    statement listed in `obligations.json` that indexes a vector is elaborated without the rule: the terms the
    driver runs and the audits name are the ones plain Lean produces.  Hence the three ways it is opened:
    `open FinIdx` in a `section`, or for the rest of a file, in which no definition of the model and no listed
    statement indexes a vector; `open FinIdx in` before a single lemma; and the tactic `open FinIdx in` inside the
    proof of a statement that had to be elaborated without it. -/
scoped macro_rules | `(tactic| get_elem_tactic_extensible) => `(tactic| exact Fin.isLt _)

end FinIdx

open FinIdx

section Vec
variable {n : Nat} {α : Type}

theorem ofFn_get (f : Fin n → α) (i : Fin n) : (Vector.ofFn f)[i] = f i :=
  Vector.getElem_ofFn ..

theorem set_get (r : Vector α n) (v w : Fin n) (x : α) :
    (r.set v x)[w] = if w = v then x else r[w] := by
  simp only [Fin.getElem_fin, Vector.getElem_set, Fin.val_inj, eq_comm]

theorem vec_ext {p q : Vector α n} (h : ∀ i : Fin n, p[i] = q[i]) : p = q :=
  Vector.ext fun i hi => h ⟨i, hi⟩

theorem exists_get_ne {p q : Vector α n} (h : p ≠ q) : ∃ i : Fin n, p[i] ≠ q[i] :=
  Classical.not_forall.1 fun hall => h (vec_ext hall)

theorem set_self (s : Vector α n) (v : Fin n) : s.set v s[v] = s := Vector.set_getElem_self _

end Vec

section Order
variable {n : Nat}

/-- `p ⊆ q` as sets of states -/
def Space.le (p q : Space n) : Prop := q.Ext p

theorem Space.Ext.refl (p : Space n) : p.Ext p := fun _ _ h => h
theorem Space.Ext.trans {p q r : Space n} (h1 : p.Ext q) (h2 : q.Ext r) : p.Ext r :=
  fun i b h => h2 i b (h1 i b h)

theorem Space.Ext.get_none {p q : Space n} (h : p.Ext q) {i : Fin n} (hq : q[i] = none) : p[i] = none :=
  Option.eq_none_iff_forall_ne_some.2 fun b hb => by rw [h i b hb] at hq; cases hq

theorem Space.Ext.antisymm {p q : Space n} (h1 : p.Ext q) (h2 : q.Ext p) : p = q := by
  apply vec_ext; intro i
  cases hq : q[i] with
  | none => exact h1.get_none hq
  | some b => exact h2 i b hq

theorem Space.le_refl (p : Space n) : p.le p := Space.Ext.refl p
theorem Space.le_trans {p q r : Space n} (h1 : p.le q) (h2 : q.le r) : p.le r :=
  Space.Ext.trans h2 h1
theorem Space.le_antisymm {p q : Space n} (h1 : p.le q) (h2 : q.le p) : p = q :=
  Space.Ext.antisymm h2 h1

theorem Space.Mem.of_ext {p q : Space n} {s : State n} (h : p.Ext q) (hs : q.Mem s) : p.Mem s :=
  fun i b hp => hs i b (h i b hp)

theorem Space.ext_set_self {r : Space n} {v : Fin n} {b : Bool} (h : r[v] = none ∨ r[v] = some b) :
    r.Ext (r.set v (some b)) := by
  intro i c hi
  rw [set_get]; split
  · subst_vars; rcases h with h | h <;> rw [h] at hi <;> cases hi; rfl
  · exact hi

theorem Space.Ext.set {r q : Space n} (h : r.Ext q) {v : Fin n} {b : Bool} (hv : q[v] = some b) :
    Space.Ext (r.set v (some b)) q := by
  intro i c hi
  rw [set_get] at hi; split at hi
  · subst_vars; exact hi ▸ hv
  · exact h i c hi

theorem Space.mem_set (c : Space n) (v : Fin n) (b : Bool) (hv : c[v] = none) (s : State n) :
    Space.Mem (c.set v (some b)) s ↔ s[v] = b ∧ c.Mem s := by
  constructor
  · exact fun h => ⟨h v b (by rw [set_get, if_pos rfl]), .of_ext (ext_set_self (.inl hv)) h⟩
  · rintro ⟨hsv, hc⟩ j b' hj
    rw [set_get] at hj; split at hj
    · subst_vars; cases hj; rfl
    · exact hc j b' hj

theorem Space.exists_mem_inter (p c : Space n)
    (h : ∀ (i : Fin n) (a b : Bool), p[i] = some a → c[i] = some b → a = b) :
    ∃ s : State n, p.Mem s ∧ c.Mem s := by
  refine ⟨Vector.ofFn fun i => ((p[i]).or c[i]).getD false, ?_, ?_⟩ <;> intro i b hi <;>
    rw [ofFn_get]
  · rw [hi]; rfl
  · cases hp : p[i] with
    | none => rw [hi]; rfl
    | some a => exact h i a b hp hi

theorem Space.exists_mem (p : Space n) : ∃ s : State n, p.Mem s :=
  (p.exists_mem_inter p fun _ _ _ ha hb => Option.some.inj (ha.symm.trans hb)).imp fun _ => And.left

theorem Space.mem_top (s : State n) : Space.Mem (Vector.replicate n none) s :=
  fun i b h => by simp at h

theorem Space.le_top (p : Space n) : p.le (Vector.replicate n none) :=
  fun i b h => by simp at h

end Order

theorem countP_lt_of {α : Type} (p q : α → Bool) (l : List α)
    (hm : ∀ x ∈ l, p x = true → q x = true) (hex : ∃ a ∈ l, q a = true ∧ p a = false) :
    l.countP p < l.countP q := by
  obtain ⟨a, ha, hq, hp⟩ := hex
  obtain ⟨l₁, l₂, rfl⟩ := List.append_of_mem ha
  rw [List.forall_mem_append, List.forall_mem_cons] at hm
  have h₁ := List.countP_mono_left hm.1
  have h₂ := List.countP_mono_left hm.2.2
  simp only [List.countP_append, List.countP_cons, hq, hp, reduceIte, Bool.false_eq_true]; omega

variable {n : Nat}

def free (p : Space n) : Nat := p.toList.countP (fun c => c.isNone)

theorem free_eq (p : Space n) : free p = (List.finRange n).countP fun i => (p[i]).isNone := by
  have : p.toList = (List.finRange n).map (p[·]) := by apply List.ext_getElem <;> simp
  rw [free, this, List.countP_map]; rfl

theorem free_le (p : Space n) : free p ≤ n :=
  Nat.le_trans List.countP_le_length (Nat.le_of_eq p.length_toList)

theorem free_lt_of_le_ne {p q : Space n} (h : p.le q) (hne : p ≠ q) : free p < free q := by
  obtain ⟨i, hi⟩ := exists_get_ne hne
  rw [free_eq, free_eq]
  refine countP_lt_of _ _ _ (fun j _ hp => ?_) ⟨i, List.mem_finRange i, ?_⟩
  · rw [Space.Ext.get_none h (Option.isNone_iff_eq_none.1 hp)]; rfl
  -- where they differ, `q` is free (else `p` has the same value) and `p` is not
  · cases hq : q[i] with
    | some b => exact absurd ((h i b hq).trans hq.symm) hi
    | none =>
      cases hp : p[i] with
      | none => exact absurd (hp.trans hq.symm) hi
      | some b => exact ⟨rfl, rfl⟩

end Balm
