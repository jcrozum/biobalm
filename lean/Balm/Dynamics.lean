import Balm.Space
/-! Networks and their asynchronous dynamics: `step`, `Reach`, closed sets, trap spaces
(`trapSpace_iff`) and attractors (`attr_const`). -/
namespace Balm

/-- semantic network: update function of each variable -/
structure Net (n : Nat) where
  f : Fin n → State n → Bool

variable {n : Nat} (N : Net n)

def step (s : State n) (i : Fin n) : State n := s.set i (N.f i s)

inductive Reach : State n → State n → Prop
  | refl (s) : Reach s s
  | tail {s t} (i : Fin n) : Reach s t → Reach s (step N t i)

theorem Reach.trans {N : Net n} {a b c : State n} (h1 : Reach N a b) (h2 : Reach N b c) : Reach N a c := by
  induction h2 with
  | refl => exact h1
  | tail i _ ih => exact Reach.tail i ih

def Closed (X : State n → Prop) : Prop := ∀ s, X s → ∀ i, X (step N s i)

theorem Closed.reach {N : Net n} {X : State n → Prop} (hX : Closed N X) {s t : State n}
    (hs : X s) (h : Reach N s t) : X t := by
  induction h with
  | refl => exact hs
  | tail i _ ih => exact hX _ ih i

def TrapSpace (p : Space n) : Prop := ∀ s, p.Mem s → ∀ i, p.Mem (step N s i)

theorem top_trap : TrapSpace N (Vector.replicate n none) := fun _ _ _ => Space.mem_top _

def IsAttr (A : State n → Prop) : Prop :=
  (∃ s, A s) ∧ ∀ s, A s → ∀ t, (A t ↔ Reach N s t)

theorem IsAttr.closed {N : Net n} {A : State n → Prop} (hA : IsAttr N A) : Closed N A := by
  intro s hs i
  exact (hA.2 s hs _).2 (Reach.tail i (Reach.refl s))

theorem IsAttr.subset_of_meets {N : Net n} {A X : State n → Prop} (hA : IsAttr N A) (hX : Closed N X)
    {s t : State n} (hs : A s) (hXs : X s) (ht : A t) : X t :=
  hX.reach hXs ((hA.2 s hs t).1 ht)

section
open FinIdx

theorem step_get (s : State n) (i j : Fin n) :
    (step N s i)[j] = if j = i then N.f i s else s[j] :=
  set_get ..

theorem Space.mem_step {p : Space n} {s : State n} (hs : p.Mem s) (i : Fin n) :
    p.Mem (step N s i) ↔ ∀ b, p[i] = some b → N.f i s = b := by
  constructor
  · intro h b hb
    have := h i b hb
    rwa [step_get, if_pos rfl] at this
  · intro h j b hj
    rw [step_get]; split
    · subst_vars; exact h b hj
    · exact hs j b hj

theorem trapSpace_iff (p : Space n) :
    TrapSpace N p ↔ ∀ j b, p[j] = some b → ∀ s, p.Mem s → N.f j s = b :=
  ⟨fun h j b hj s hs => (Space.mem_step N hs j).1 (h s hs j) b hj,
    fun h s hs i => (Space.mem_step N hs i).2 fun b hb => h i b hb s hs⟩

theorem Closed.and_const {X : State n → Prop} (hX : Closed N X) (j : Fin n) (b : Bool)
    (hc : ∀ s, X s → N.f j s = b) : Closed N fun s => X s ∧ s[j] = b := by
  intro s hs i
  refine ⟨hX s hs.1 i, ?_⟩
  rw [step_get]; split
  · subst_vars; exact hc s hs.1
  · exact hs.2

end

/-- Behind C06 (`ldoi_sound`) and, through `attr_in_percIter`, C01 and C11.  Updating `j` gives it the value `b`,
    which it keeps on the way back. -/
theorem attr_const (A : State n → Prop) (hA : IsAttr N A) (j : Fin n) (b : Bool)
    (hc : ∀ s, A s → N.f j s = b) : ∀ s, A s → s[j] = b := by
  intro s hs
  have hAt : A (step N s j) := hA.closed s hs j
  have htj := (step_get N s j j).trans ((if_pos rfl).trans (hc s hs))
  exact ((hA.closed.and_const N j b hc).reach ⟨hAt, htj⟩ ((hA.2 _ hAt s).1 hs)).2

end Balm
