import Balm.Impl.Solver
/-!
# The ASP program of `trappist` as data, and its classical models (C09)

`trapProgram` mirrors `_create_clingo_constraints` for forward time: a choice rule and a conflict
constraint per variable (plus "one of the two" for `fix`), a fact per value of `ensure_subspace`
(with the *inverted* polarity of the encoding: value 1 ↦ place `b0_x`), a constraint per avoided
subspace, the siphon rule `pre₁; …; pre_k :- target` per transition, and for `max` the disjunction
of the free places and "source variables are fixed".

With `siphon_iff_trapspace` (for a net that `faithfulOnB` accepted) its classical models are exactly the
place sets denoting trap spaces inside `ens` that are inside no avoided subspace (`models_are_trapspaces`);
which of them clingo enumerates (⊆-maximal / ⊆-minimal ones) is assumption E1.  `fpProgram` is the
program of the reduced-STG fixed-point solver.
-/
namespace Balm.Impl

open Balm

variable {n : Nat}

inductive Rule (n : Nat) where
  | choice (p : Place n)                       -- `{p}.`
  | noBoth (i : Fin n)                         -- `:- b1_i, b0_i.`
  | either (i : Fin n)                         -- `b1_i ; b0_i.`
  | fact (p : Place n)                         -- `p.`
  | notAll (ps : List (Place n))               -- `:- p1, …, pk.`
  | impl (head : List (Place n)) (body : Place n)   -- `h1; …; hk :- body.`
  | some (ps : List (Place n))                 -- `p1; …; pk.`
  deriving DecidableEq

def Rule.Sat (S : Place n → Prop) : Rule n → Prop
  | .choice _ => True
  | .noBoth i => ¬ (S (i, true) ∧ S (i, false))
  | .either i => S (i, true) ∨ S (i, false)
  | .fact p => S p
  | .notAll ps => ¬ ∀ p ∈ ps, S p
  | .impl head body => S body → ∃ q ∈ head, S q
  | .some ps => ∃ p ∈ ps, S p

/-- the place that *encodes* "variable `i` has value `b`" in a trap-space model (inverted) -/
def encPlace (i : Fin n) (b : Bool) : Place n := (i, !b)

def spacePlaces (p : Space n) : List (Place n) :=
  (List.finRange n).filterMap fun i => (p[i]).map fun b => encPlace i b

/-- pre-places of a transition as the Petri net lists them: own source place and the read places -/
def prePlaces (t : Trans n) : List (Place n) :=
  (t.v, !t.up) :: (List.finRange n).filterMap fun j =>
    if j = t.v then none else (t.c[j]).map fun b => (j, b)

theorem mem_prePlaces (t : Trans n) (q : Place n) : q ∈ prePlaces t ↔ t.pre q := by
  refine List.mem_cons.trans (or_congr Iff.rfl ?_)
  simp only [List.mem_filterMap, List.mem_finRange, true_and, Option.ite_none_left_eq_some,
    Option.map_eq_some_iff]
  exact ⟨fun ⟨_, h1, _, h2, e⟩ => e ▸ ⟨h1, h2⟩, fun ⟨h1, h2⟩ => ⟨_, h1, _, h2, rfl⟩⟩

def baseRules (fix : Bool) : List (Rule n) :=
  (List.finRange n).flatMap fun i =>
    [Rule.choice (i, true), Rule.choice (i, false), Rule.noBoth i] ++ (if fix then [Rule.either i] else [])

def ensureRules (ens : Space n) : List (Rule n) := (spacePlaces ens).map Rule.fact

def avoidRules (avoid : List (Space n)) : List (Rule n) := avoid.map fun a => Rule.notAll (spacePlaces a)

def siphonRules (ts : List (Trans n)) : List (Rule n) := ts.map fun t => Rule.impl (prePlaces t) (t.v, t.up)

def freePlaces (ens : Space n) : List (Place n) :=
  (List.finRange n).flatMap fun i => if (ens[i]).isNone then [(i, true), (i, false)] else []

def maxRules (ens : Space n) (srcs : List (Fin n)) : List (Rule n) :=
  if (freePlaces ens).isEmpty then [] else
    Rule.some (freePlaces ens) :: (srcs.filter fun i => (ens[i]).isNone).map fun i => Rule.some [(i, true), (i, false)]

/-- `_create_clingo_constraints(…, reverse_time=False)` -/
def trapProgram (ts : List (Trans n)) (pr : Problem) (ens : Space n) (avoid : List (Space n))
    (srcs : List (Fin n)) : List (Rule n) :=
  baseRules (pr == .fix) ++ ensureRules ens ++ avoidRules avoid ++ siphonRules ts ++
    (if pr == .max then maxRules ens srcs else [])

def Models (prog : List (Rule n)) (S : Place n → Prop) : Prop := ∀ r ∈ prog, r.Sat S

def ConflictFree (S : Place n → Prop) : Prop := ∀ i : Fin n, ¬ (S (i, true) ∧ S (i, false))

section
open FinIdx

theorem models_nil (S : Place n → Prop) : Models [] S := fun _ h => nomatch h

theorem models_cons (r : Rule n) (l : List (Rule n)) (S : Place n → Prop) :
    Models (r :: l) S ↔ r.Sat S ∧ Models l S := List.forall_mem_cons

theorem models_append (a b : List (Rule n)) (S : Place n → Prop) :
    Models (a ++ b) S ↔ Models a S ∧ Models b S := by
  simp only [Models, List.mem_append, or_imp, forall_and]

theorem models_map {α : Type} (f : α → Rule n) (l : List α) (S : Place n → Prop) :
    Models (l.map f) S ↔ ∀ x ∈ l, (f x).Sat S := by
  simp only [Models, List.forall_mem_map]

theorem models_flatMap {α : Type} (f : α → List (Rule n)) (l : List α) (S : Place n → Prop) :
    Models (l.flatMap f) S ↔ ∀ x ∈ l, Models (f x) S := by
  simp only [Models, List.mem_flatMap, forall_exists_index, and_imp]
  exact ⟨fun h x hx r hr => h r x hx hr, fun h r x hx hr => h x hx r hr⟩

theorem models_baseRules (fix : Bool) (S : Place n → Prop) :
    Models (baseRules fix) S ↔ ConflictFree S ∧ (fix = true → ∀ i : Fin n, S (i, true) ∨ S (i, false)) := by
  simp only [baseRules, models_flatMap, models_append, models_cons, models_nil, Rule.Sat,
    List.mem_finRange, true_imp_iff, true_and, and_true, ConflictFree, forall_and]
  cases fix <;> simp [models_cons, models_nil, Rule.Sat]

theorem forall_mem_spacePlaces (p : Space n) (S : Place n → Prop) :
    (∀ q ∈ spacePlaces p, S q) ↔ ∀ (i : Fin n) (b : Bool), p[i] = some b → S (i, !b) := by
  simp only [spacePlaces, encPlace, List.mem_filterMap, List.mem_finRange, true_and,
    Option.map_eq_some_iff, forall_exists_index, and_imp]
  exact ⟨fun h i b hb => h _ i b hb rfl, fun h q i b hb e => e ▸ h i b hb⟩

theorem trapProgram_models (ts : List (Trans n)) (pr : Problem) (ens : Space n) (avoid : List (Space n))
    (srcs : List (Fin n)) (S : Place n → Prop) :
    Models (trapProgram ts pr ens avoid srcs) S ↔
      (ConflictFree S ∧ (pr = .fix → ∀ i : Fin n, S (i, true) ∨ S (i, false))) ∧
      (∀ p ∈ spacePlaces ens, S p) ∧ (∀ a ∈ avoid, ¬ ∀ p ∈ spacePlaces a, S p) ∧ Siphon ts S ∧
      (pr = .max → Models (maxRules ens srcs) S) := by
  cases pr <;>
    simp only [trapProgram, models_append, models_baseRules, ensureRules, avoidRules, siphonRules,
      models_map, Rule.Sat, mem_prePlaces, Siphon, models_nil, reduceCtorEq, beq_self_eq_true,
      if_true, if_false, true_imp_iff, false_imp_iff, and_true, beq_iff_eq, and_assoc]

end

/-- **C09 (`trapProgram_models`, `min` problem).** The classical models of the emitted program are
    exactly the conflict-free siphons that contain the places of `ensure_subspace` and do not contain
    all places of any avoided subspace. -/
theorem trapProgram_models_min (ts : List (Trans n)) (ens : Space n) (avoid : List (Space n))
    (srcs : List (Fin n)) (S : Place n → Prop) :
    Models (trapProgram ts .min ens avoid srcs) S ↔
      ConflictFree S ∧ (∀ p ∈ spacePlaces ens, S p) ∧ (∀ a ∈ avoid, ¬ ∀ p ∈ spacePlaces a, S p) ∧ Siphon ts S := by
  simp only [trapProgram_models, reduceCtorEq, false_imp_iff, and_true]

theorem spacePlaces_sub_iff {S : Place n → Prop} {p : Space n} (hD : Denotes S p) (q : Space n) :
    (∀ x ∈ spacePlaces q, S x) ↔ p.le q := by
  rw [forall_mem_spacePlaces]
  exact forall_congr' fun i => forall_congr' fun b => imp_congr_right fun _ => (hD i b).symm

/-- **C09.** For a net that is faithful to the network (which `faithfulOnB` decides for the real net),
    the models of the `min` program are exactly the place sets denoting trap spaces of the network
    that lie inside `ens` and inside none of the avoided subspaces. -/
theorem models_are_trapspaces (N : Net n) (ts : List (Trans n)) (hF : Faithful N ts)
    (ens : Space n) (avoid : List (Space n)) (srcs : List (Fin n)) (S : Place n → Prop) (p : Space n)
    (hD : Denotes S p) :
    Models (trapProgram ts .min ens avoid srcs) S ↔
      TrapSpace N p ∧ p.le ens ∧ ∀ a ∈ avoid, ¬ p.le a := by
  have hcf : ConflictFree S := fun i h => hD.not_both h.1 h.2
  simp only [trapProgram_models_min, hcf, true_and, spacePlaces_sub_iff hD,
    siphon_iff_trapspace N ts hF S p hD]
  exact ⟨fun ⟨h1, h2, h3⟩ => ⟨h3, h1, h2⟩, fun ⟨h1, h2, h3⟩ => ⟨h2, h3, h1⟩⟩

def showPlace (q : Place n) : String := (if q.2 then "p" else "n") ++ toString q.1.val

def sortStr (l : List String) : List String := l.mergeSort (fun a b => a ≤ b)

def Rule.render : Rule n → String
  | .choice p => "{" ++ showPlace p ++ "}."
  | .noBoth i => ":- " ++ String.intercalate ", " (sortStr [showPlace (i, true), showPlace (i, false)]) ++ "."
  | .either i => String.intercalate "; " (sortStr [showPlace (i, true), showPlace (i, false)]) ++ "."
  | .fact p => showPlace p ++ "."
  | .notAll ps => if ps.isEmpty then "#false." else ":- " ++ String.intercalate ", " (sortStr (ps.map showPlace)) ++ "."
  | .impl head body => String.intercalate "; " (sortStr (head.map showPlace)) ++ " :- " ++ showPlace body ++ "."
  | .some ps => String.intercalate "; " (sortStr (ps.map showPlace)) ++ "."

/-- canonical text of a program, compared with the strings passed to `Control.add` -/
def renderProgram (prog : List (Rule n)) : List String := sortStr (prog.map Rule.render)

/-- `compute_fixed_point_reduced_STG_async`: transitions that move a retained variable away from its
    retained value are deleted -/
def reducePN (ts : List (Trans n)) (R : Space n) : List (Trans n) :=
  ts.filter fun t => !(R[t.v] == some (!t.up))

/-- positive encoding of the fixed-point program: value `b` of variable `i` is place `(i, b)` -/
def posPlaces (p : Space n) : List (Place n) :=
  (List.finRange n).filterMap fun i => (p[i]).map fun b => (i, b)

/-- the avoid constraints of the fixed-point program: the loop stops after the first empty subspace
    (`#false.` – nothing else matters) -/
def fpAvoidRules : List (Space n) → List (Rule n)
  | [] => []
  | a :: rest =>
    if (posPlaces a).isEmpty then [Rule.notAll []] else Rule.notAll (posPlaces a) :: fpAvoidRules rest

theorem models_fpAvoidRules (S : Place n → Prop) : ∀ (avoid : List (Space n)),
    Models (fpAvoidRules avoid) S ↔ ∀ a ∈ avoid, ¬ ∀ p ∈ posPlaces a, S p
  | [] => by simp only [fpAvoidRules, models_nil, List.not_mem_nil, false_imp_iff, implies_true]
  | a :: rest => by
    unfold fpAvoidRules
    split
    · -- `#false.`: no model, and the empty avoided subspace contains everything
      next he =>
      simp only [models_cons, List.forall_mem_cons, List.isEmpty_iff.1 he, Rule.Sat, List.not_mem_nil,
        false_imp_iff, implies_true, not_true, false_and]
    · rw [models_cons, List.forall_mem_cons, models_fpAvoidRules S rest]; rfl

/-- `_create_clingo_fixed_point_constraints` -/
def fpProgram (ts : List (Trans n)) (ens : Space n) (avoid : List (Space n)) : List (Rule n) :=
  baseRules true ++ (ts.map fun t => Rule.notAll (prePlaces t)) ++ (posPlaces ens).map Rule.fact ++
    fpAvoidRules avoid

/-- the marking of a state: exactly one place per variable -/
def marking (s : State n) : Place n → Prop := fun q => s[q.1] = q.2

section
open FinIdx

theorem forall_mem_posPlaces (p : Space n) (S : Place n → Prop) :
    (∀ q ∈ posPlaces p, S q) ↔ ∀ (i : Fin n) (b : Bool), p[i] = some b → S (i, b) := by
  simp only [posPlaces, List.mem_filterMap, List.mem_finRange, true_and, Option.map_eq_some_iff,
    forall_exists_index, and_imp]
  exact ⟨fun h i b hb => h _ i b hb rfl, fun h q i b hb e => e ▸ h i b hb⟩

theorem pre_marking_iff_enabled (t : Trans n) (s : State n) :
    (∀ q ∈ prePlaces t, marking s q) ↔ t.enabled s := by
  simp only [mem_prePlaces, Trans.pre, or_imp, forall_and, forall_eq, and_imp, Prod.forall]
  rfl

theorem mem_reducePN (ts : List (Trans n)) (R : Space n) (t : Trans n) :
    t ∈ reducePN ts R ↔ t ∈ ts ∧ R[t.v] ≠ some (!t.up) := by
  simp only [reducePN, List.mem_filter, Bool.not_eq_true', beq_eq_false_iff_ne]

theorem reducePN_dead_iff (N : Net n) (ts : List (Trans n)) (hF : Faithful N ts) (R : Space n) (s : State n) :
    (∀ t ∈ reducePN ts R, ¬ t.enabled s) ↔ ∀ i : Fin n, N.f i s = s[i] ∨ R[i] = some s[i] := by
  simp only [mem_reducePN]
  constructor
  · intro h i
    apply Classical.byContradiction
    intro hno
    rw [not_or] at hno
    -- `i` can move, so a transition for it is enabled; it was not deleted
    have hmove := Bool.eq_not.2 (Ne.symm hno.1)
    obtain ⟨t, ht, rfl, htu, hen⟩ := (hF s i (N.f i s)).2 ⟨hmove, rfl⟩
    exact h t ⟨ht, by rw [htu, ← hmove]; exact hno.2⟩ hen
  · rintro h t ⟨ht, hR⟩ hen
    obtain ⟨hsv, hf⟩ := (hF s t.v t.up).1 ⟨t, ht, rfl, rfl, hen⟩
    rcases h t.v with h | h
    · rw [hf, hsv] at h; exact (Bool.eq_not_self _).1 h
    · exact hR (hsv ▸ h)

end

/-- **C09 (reduced-STG solver).** For a net faithful to the network, the marking of a state `s` is a
    model of the fixed-point program of the reduced net iff `s` lies in `ens`, in no avoided subspace,
    and every variable either agrees with its update function or sits on its retained value – the
    specification `mem_reducedFixedPoints` of the reference the real solver is compared with. -/
theorem fp_models_iff (N : Net n) (ts : List (Trans n)) (hF : Faithful N ts) (R ens : Space n)
    (avoid : List (Space n)) (s : State n) :
    Models (fpProgram (reducePN ts R) ens avoid) (marking s) ↔
      ens.Mem s ∧ (∀ a ∈ avoid, ¬ a.Mem s) ∧ ∀ i : Fin n, N.f i s = s[i] ∨ R[i] = some s[i] := by
  have hbase : Models (baseRules true) (marking s) :=
    (models_baseRules true _).2
      ⟨fun i h => Bool.noConfusion (h.1.symm.trans h.2), fun _ i => Bool.eq_false_or_eq_true _⟩
  have hmem : ∀ p : Space n, (∀ q ∈ posPlaces p, marking s q) ↔ p.Mem s := fun p =>
    forall_mem_posPlaces p _
  simp only [fpProgram, models_append, hbase, true_and, models_map, Rule.Sat, models_fpAvoidRules,
    pre_marking_iff_enabled, hmem, reducePN_dead_iff N ts hF]
  exact ⟨fun ⟨⟨h1, h2⟩, h3⟩ => ⟨h2, h3, h1⟩, fun ⟨h1, h2, h3⟩ => ⟨⟨h3, h1⟩, h2⟩⟩

end Balm.Impl
