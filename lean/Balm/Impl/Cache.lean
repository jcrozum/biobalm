/-!
# The attractor-cache protocol of `NodeData` (C14) and its transparency under reclaim/pickle (C16)

Ghost-tag model.  Every node carries a version `ver` – how often it has been given successors –
and three cache fields (`seeds`, `cands`, `sets`), each either absent or tagged with the version of
the successor set it was computed for.  The operations are those of the (repaired) code:

* `giveSucc i`  – any path that turns a stub into a node with successors (`_expand_one_node`,
  `skip_to_minimal`, `skip_remaining`, the skip nodes of `expand_minimal_spaces`,
  `attach_scc_subdiagram`): the three fields are discarded;
* `shortcut i`  – source-node shortcuts of block / SCC expansion: candidates discarded, seeds and
  sets overwritten with the (empty) answer for the new successors;
* `query i w`   – `node_attractor_candidates/seeds/sets(compute=True)`: fields that are absent may be
  computed, for the *current* successors; present fields are returned as they are;
* `markEmpty i` – block expansion / SCC attachment record "no attractor here" for the current successors;
* `reclaim`     – `reclaim_node_data`: candidates dropped where seeds are known;
* `addNode`     – `_ensure_node` creating a stub.
-/
namespace Balm.Cache

structure CNode where
  ver : Nat
  seeds : Option Nat
  cands : Option Nat
  sets : Option Nat
  deriving DecidableEq, Repr

abbrev CState := List CNode

structure Which where
  seeds : Bool
  cands : Bool
  sets : Bool
  deriving DecidableEq

inductive COp where
  | addNode
  | giveSucc (i : Nat)
  | shortcut (i : Nat)
  | query (i : Nat) (w : Which)
  | markEmpty (i : Nat)
  | reclaim
  deriving DecidableEq

def fill (present : Option Nat) (want : Bool) (ver : Nat) : Option Nat :=
  match present with
  | some t => some t
  | none => if want then some ver else none

def stepNode (op : COp) (j : Nat) (nd : CNode) : CNode :=
  match op with
  | .addNode => nd
  | .giveSucc i => if i = j then { ver := nd.ver + 1, seeds := none, cands := none, sets := none } else nd
  | .shortcut i =>
    if i = j then { ver := nd.ver + 1, seeds := some (nd.ver + 1), cands := none, sets := some (nd.ver + 1) } else nd
  | .query i w =>
    if i = j then { nd with seeds := fill nd.seeds w.seeds nd.ver, cands := fill nd.cands w.cands nd.ver,
                            sets := fill nd.sets w.sets nd.ver } else nd
  | .markEmpty i => if i = j then { nd with seeds := some nd.ver, sets := some nd.ver } else nd
  | .reclaim => if nd.seeds.isSome then { nd with cands := none } else nd

def mapIdx (f : Nat → CNode → CNode) : Nat → CState → CState
  | _, [] => []
  | k, nd :: rest => f k nd :: mapIdx f (k + 1) rest

def step (s : CState) (op : COp) : CState :=
  match op with
  | .addNode => s ++ [{ ver := 0, seeds := none, cands := none, sets := none }]
  | op => mapIdx (stepNode op) 0 s

def FreshNode (nd : CNode) : Prop :=
  (∀ t, nd.seeds = some t → t = nd.ver) ∧ (∀ t, nd.cands = some t → t = nd.ver) ∧ (∀ t, nd.sets = some t → t = nd.ver)

def Fresh (s : CState) : Prop := ∀ nd ∈ s, FreshNode nd

abbrev Cur (v : Nat) (o : Option Nat) : Prop := ∀ t, o = some t → t = v

theorem cur_none (v : Nat) : Cur v none := nofun

theorem cur_some (v : Nat) : Cur v (some v) := fun _ h => (Option.some.inj h).symm

theorem cur_fill {o : Option Nat} {w : Bool} {v : Nat} (h : Cur v o) : Cur v (fill o w v) := by
  unfold fill
  split
  · exact h
  · split
    · exact cur_some v
    · exact cur_none v

theorem ite_pred {α : Type} {c : Prop} [Decidable c] {P : α → Prop} {a b : α} (ha : P a) (hb : P b) :
    P (if c then a else b) := by
  split <;> assumption

theorem ite_rel {α : Type} {c : Prop} [Decidable c] {R : α → α → Prop} {a a' b b' : α}
    (ha : R a a') (hb : R b b') : R (if c then a else b) (if c then a' else b') := by
  split <;> assumption

theorem stepNode_fresh (op : COp) (j : Nat) (nd : CNode) (h : FreshNode nd) : FreshNode (stepNode op j nd) := by
  cases op with
  | addNode => exact h
  | giveSucc i => exact ite_pred (P := FreshNode) ⟨cur_none _, cur_none _, cur_none _⟩ h
  | shortcut i => exact ite_pred (P := FreshNode) ⟨cur_some _, cur_none _, cur_some _⟩ h
  | query i w => exact ite_pred (P := FreshNode) ⟨cur_fill h.1, cur_fill h.2.1, cur_fill h.2.2⟩ h
  | markEmpty i => exact ite_pred (P := FreshNode) ⟨cur_some _, h.2.1, cur_some _⟩ h
  | reclaim => exact ite_pred (P := FreshNode) ⟨h.1, cur_none _, h.2.2⟩ h

theorem mapIdx_fresh (f : Nat → CNode → CNode) (hf : ∀ j nd, FreshNode nd → FreshNode (f j nd))
    (k : Nat) (s : CState) (h : Fresh s) : Fresh (mapIdx f k s) := by
  fun_induction mapIdx f k s with
  | case1 => exact h
  | case2 k nd rest ih =>
    obtain ⟨h1, h2⟩ := List.forall_mem_cons.1 h
    exact List.forall_mem_cons.2 ⟨hf k nd h1, ih h2⟩

/-- every operation of the protocol keeps all cached data current -/
theorem step_fresh (s : CState) (op : COp) (h : Fresh s) : Fresh (step s op) := by
  cases op with
  | addNode =>
    exact List.forall_mem_append.2 ⟨h, List.forall_mem_singleton.2 ⟨cur_none _, cur_none _, cur_none _⟩⟩
  | _ => exact mapIdx_fresh _ (stepNode_fresh _) 0 s h

/-- **C14.** After every history of operations, every cached field of every node was computed for
    the node's current successor set. -/
theorem history_fresh (ops : List COp) : Fresh (ops.foldl step []) :=
  ops.foldlRecOn step (fun _ h => nomatch h) fun s h op _ => step_fresh s op h

/-- non-vacuity: a history in which a stub is queried, then expanded, then queried again -/
example : (([COp.addNode, .query 0 ⟨true, true, false⟩, .giveSucc 0, .query 0 ⟨true, false, true⟩] : List COp).foldl step [])
    = [{ ver := 1, seeds := some 1, cands := none, sets := some 1 }] := by decide

/-- the skip operation as it was before the repair: successors are added, nothing is discarded -/
def unrepairedSkip (i : Nat) (s : CState) : CState :=
  mapIdx (fun j nd => if i = j then { nd with ver := nd.ver + 1 } else nd) 0 s

/-- … and it breaks the invariant: seeds computed for the stub survive with a stale tag -/
theorem unrepaired_skip_is_stale :
    ¬ Fresh (unrepairedSkip 0 (([COp.addNode, .query 0 ⟨true, true, false⟩] : List COp).foldl step [])) := by
  intro h
  have := h { ver := 1, seeds := some 0, cands := some 0, sets := none } (by decide)
  have h1 := this.1 0 rfl
  simp at h1

/-! ### C16: reclaim and pickle are transparent -/

/-- what a node reports: `node_attractor_candidates` falls back to the seeds once the candidates
    were reclaimed; seeds and sets are reported as stored -/
def reportedCands (nd : CNode) : Option Nat := match nd.cands with | some t => some t | none => nd.seeds

/-- two copies of a node that differ at most by reclaimed candidates: candidates may differ once the
    seeds are known (the API then reports the seeds in their place, and C08 only constrains a
    candidate list up to covering) -/
def RelNode (a b : CNode) : Prop :=
  a.ver = b.ver ∧ a.seeds = b.seeds ∧ a.sets = b.sets ∧ (a.cands = b.cands ∨ a.seeds.isSome)

theorem relNode_refl (a : CNode) : RelNode a a := ⟨rfl, rfl, rfl, Or.inl rfl⟩

theorem relNode_reclaim (j : Nat) (a : CNode) : RelNode a (stepNode .reclaim j a) := by
  dsimp only [stepNode]
  split
  · exact ⟨rfl, rfl, rfl, .inr ‹_›⟩
  · exact relNode_refl a

/-- related nodes are observationally equal: same version (successor set), same seeds, same sets,
    and candidates are reported by one exactly when they are reported by the other -/
theorem relNode_obs {a b : CNode} (h : RelNode a b) :
    a.ver = b.ver ∧ a.seeds = b.seeds ∧ a.sets = b.sets ∧
      ((reportedCands a).isSome = (reportedCands b).isSome) := by
  obtain ⟨hv, hs, hse, hc⟩ := h
  refine ⟨hv, hs, hse, ?_⟩
  unfold reportedCands
  rcases hc with hc | hsome
  · rw [hc, hs]
  · have hsb : b.seeds.isSome := by rw [← hs]; exact hsome
    cases a.cands <;> cases b.cands <;> simp [hsome, hsb]

theorem fill_isSome_of_isSome {p : Option Nat} {w : Bool} {v : Nat} (h : p.isSome) : (fill p w v).isSome := by
  cases p with
  | some t => simp [fill]
  | none => cases h

/-- **C16 (bisimulation step).** Every operation maps related nodes to related nodes – so inserting
    `reclaim_node_data` (or a pickle round trip, which is the identity on this state) anywhere in a
    history never changes a later observation. -/
theorem stepNode_rel (op : COp) (j : Nat) {a b : CNode} (h : RelNode a b) :
    RelNode (stepNode op j a) (stepNode op j b) := by
  -- the two nodes differ in their candidates only; `query` and `markEmpty` alone keep the candidates
  -- of the node they rewrite
  obtain ⟨v, s, c, e⟩ := a
  obtain ⟨v', s', c', e'⟩ := b
  obtain ⟨rfl, rfl, rfl, hc⟩ := h
  have h : RelNode ⟨v, s, c, e⟩ ⟨v, s, c', e⟩ := ⟨rfl, rfl, rfl, hc⟩
  cases op with
  | addNode => exact h
  | giveSucc i => exact ite_rel (R := RelNode) (relNode_refl _) h
  | shortcut i => exact ite_rel (R := RelNode) (relNode_refl _) h
  | query i w =>
    exact ite_rel (R := RelNode) ⟨rfl, rfl, rfl, hc.imp (congrArg (fill · _ _)) fill_isSome_of_isSome⟩ h
  | markEmpty i => exact ite_rel (R := RelNode) ⟨rfl, rfl, rfl, .inr rfl⟩ h
  | reclaim => exact ite_rel (R := RelNode) (relNode_refl _) h

def Rel : CState → CState → Prop
  | [], [] => True
  | a :: as, b :: bs => RelNode a b ∧ Rel as bs
  | _, _ => False

theorem mapIdx_rel (f : Nat → CNode → CNode) (hf : ∀ j a b, RelNode a b → RelNode (f j a) (f j b)) :
    ∀ (k : Nat) (s t : CState), Rel s t → Rel (mapIdx f k s) (mapIdx f k t) := by
  intro k s t
  fun_induction Rel s t generalizing k with
  | case1 => exact fun _ => trivial
  | case2 a as b bs ih => exact fun h => ⟨hf k a b h.1, ih (k + 1) h.2⟩
  | case3 => exact False.elim

theorem rel_append (s t : CState) (h : Rel s t) (x : CNode) : Rel (s ++ [x]) (t ++ [x]) := by
  fun_induction Rel s t with
  | case1 => exact ⟨relNode_refl x, trivial⟩
  | case2 a as b bs ih => exact ⟨h.1, ih h.2⟩
  | case3 => exact h.elim

/-- **C16.** The relation is a bisimulation for every operation … -/
theorem step_rel (s t : CState) (op : COp) (h : Rel s t) : Rel (step s op) (step t op) := by
  cases op with
  | addNode => exact rel_append s t h _
  | _ => exact mapIdx_rel _ (fun j _ _ => stepNode_rel _ j) 0 s t h

/-- … and a reclaim leaves a state related to what it was -/
theorem rel_reclaim (s : CState) : Rel s (step s .reclaim) := by
  suffices ∀ k, Rel s (mapIdx (stepNode .reclaim) k s) from this 0
  induction s with
  | nil => exact fun _ => trivial
  | cons a rest ih => exact fun k => ⟨relNode_reclaim k a, ih (k + 1)⟩

/-- hence: run any history `ops2` after `ops1`, with or without a reclaim in between – the final
    states are related, i.e. observationally equal (`relNode_obs`) -/
theorem reclaim_transparent (ops1 ops2 : List COp) :
    Rel (ops2.foldl step (ops1.foldl step [])) (ops2.foldl step (step (ops1.foldl step []) .reclaim)) :=
  List.foldl_rel (rel_reclaim _) fun op _ s t h => step_rel s t op h

end Balm.Cache
