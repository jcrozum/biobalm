import Balm.Concrete
import Balm.Key
import Balm.Expr
/-!
# `Impl.Diagram` – the executable model of `SuccessionDiagram`'s structural state machine

The diagram state is `SDm.SD (Space n)` (the very structure the invariant theorems of `SDm`,
`Concrete` are about) plus the list of skip nodes.  Single-node expansion *is*
`SDm.expandOneLimited` over the environment `implEnv`, whose stable-motif oracle is
`maxTrapsIn` sorted by the code's own integer key (`space_unique_key`).  The traversal drivers
(`expand_bfs`, `expand_dfs`, `expand_to_target`, `expand_minimal_spaces`, `skip_to_minimal`,
`skip_remaining`) are fuelled structural recursions that touch the state only through
single-node expansion or through the explicit skip-edge insertions.
-/
namespace Balm.Impl

open Balm Balm.SDm

variable {n : Nat}

/-- items of the Python dictionary of a space: `(variable index, value)` -/
def spaceItems (p : Space n) : List (Nat × Bool) :=
  (List.finRange n).filterMap fun i => (p[i]).map fun b => (i.val, b)

/-- `space_unique_key` -/
def spaceKey (p : Space n) : Nat := KeyBits.keyItems (spaceItems p)

/-- identity inputs (`extract_source_variables`): the update function is the variable itself -/
def isInputB (N : Net n) (i : Fin n) : Bool :=
  (allStates n).all fun s => N.f i s == s[i]

def inputs (N : Net n) : List (Fin n) := (List.finRange n).filter (isInputB N)

def top : Space n := Vector.replicate n none

/-- stable motifs of a node in the order `_expand_one_node` processes them -/
def sortedMax (N : Net n) (p : Space n) (srcs : List (Fin n)) : List (Space n) :=
  (maxTrapsIn N p srcs).mergeSort (fun a b => spaceKey a ≤ spaceKey b)

theorem mem_sortedMax (N : Net n) (p : Space n) (srcs : List (Fin n)) (m : Space n) :
    m ∈ sortedMax N p srcs ↔ m ∈ maxTrapsIn N p srcs :=
  List.mem_mergeSort

/-- the environment of the diagram state machine as the code uses it: sources only at the root,
    motifs in key order.  `refEnv` (Balm/Concrete.lean), over which the partition theorems run, has the same motifs
    unsorted (`mem_sortedMax`); no theorem carries a statement from one to the other. -/
def implEnv (N : Net n) (root : Space n) (srcs : List (Fin n)) : SDm.Env (Space n) where
  perc := perc N
  maxT := fun p => if p = root then sortedMax N p srcs else sortedMax N p []
  good := GoodSpace N
  perc_good := by
    intro p _ m hm
    split at hm <;> exact goodSpace_perc_of_mem N ((mem_sortedMax ..).1 hm)

structure Diag (n : Nat) where
  core : SDm.SD (Space n)
  skipped : List Nat

/-- result of an operation: `ok b` = returned `b`; `err` = raised the stable-motif limit error -/
inductive Outcome where
  | ok (b : Bool)
  | err
  deriving Repr, BEq, DecidableEq

structure Ctx (n : Nat) where
  N : Net n
  root : Space n
  srcs : List (Fin n)
  motifLimit : Nat

def Ctx.env (c : Ctx n) : SDm.Env (Space n) := implEnv c.N c.root c.srcs

def Ctx.mk' (N : Net n) (motifLimit : Nat) : Ctx n :=
  { N := N, root := perc N top, srcs := inputs N, motifLimit := motifLimit }

def initDiag (c : Ctx n) : Diag n := { core := SDm.init c.root, skipped := [] }

def Diag.size (d : Diag n) : Nat := d.core.nodes.length
def Diag.isExp (d : Diag n) (i : Nat) : Bool := d.core.exp[i]?.getD false
def Diag.space (d : Diag n) (i : Nat) : Space n := d.core.nodes[i]?.getD top

/-- successor ids in edge-insertion order, without repetition (`dag.successors`) -/
def Diag.succs (d : Diag n) (i : Nat) : List Nat :=
  ((SDm.out d.core i).map (·.2.1)).eraseDups

def sortNat (l : List Nat) : List Nat := l.mergeSort (· ≤ ·)

/-- `_expand_one_node`: returns `false` when the stable-motif limit error is raised -/
def expandNode (c : Ctx n) (d : Diag n) (i : Nat) : Diag n × Bool :=
  let r := SDm.expandOneLimited c.env c.motifLimit d.core i
  ({ d with core := r.1 }, r.2)

/-- `limit is not None and x >= limit` -/
def hit (lim : Option Nat) (x : Nat) : Bool :=
  match lim with
  | some L => decide (x ≥ L)
  | none => false

def addSeen (succ : List Nat) (acc : List Nat × List Nat) : List Nat × List Nat :=
  succ.foldl (fun a x => if a.1.contains x then a else (x :: a.1, a.2 ++ [x])) acc

/-- one BFS level; returns state, seen, next level and `none` (level finished) or the early outcome -/
def bfsLevel (c : Ctx n) (szLimit : Option Nat) :
    List Nat → Diag n → List Nat → List Nat → Diag n × List Nat × List Nat × Option Outcome
  | [], d, seen, next => (d, seen, next, none)
  | node :: rest, d, seen, next =>
    if hit szLimit d.size && !d.isExp node then
      (d, seen, next, some (.ok false))
    else
      let (d', okk) := expandNode c d node
      if !okk then (d', seen, next, some .err)
      else
        let (seen', next') := addSeen (sortNat (d'.succs node)) (seen, next)
        bfsLevel c szLimit rest d' seen' next'

def bfsLoop (c : Ctx n) (lvLimit szLimit : Option Nat) :
    Nat → Diag n → List Nat → List Nat → Nat → Diag n × Outcome
  | 0, d, _, _, _ => (d, .ok true)
  | fuel+1, d, seen, cur, level =>
    if cur.isEmpty then (d, .ok true) else
    let (d', seen', next, early) := bfsLevel c szLimit cur d seen []
    match early with
    | some o => (d', o)
    | none =>
      if hit lvLimit level then (d', .ok false)
      else bfsLoop c lvLimit szLimit fuel d' seen' next (level + 1)

/-- `3^n` bounds the number of nodes (`plain_history_size`), hence of BFS levels -/
def fuelOf (n : Nat) : Nat := 3 ^ n + 2

def expandBfs (c : Ctx n) (d : Diag n) (start : Nat) (lvLimit szLimit : Option Nat) : Diag n × Outcome :=
  bfsLoop c lvLimit szLimit (fuelOf n) d [start] [start] 0

def dropSeen (seen : List Nat) : List Nat → List Nat
  | [] => []
  | x :: xs => if seen.contains x then dropSeen seen xs else x :: xs

/-- the stack holds `(node, remaining successors in ascending order)`; `none` = not yet computed.
    (The Python keeps the list reversed and pops from the back; the head here is its last element.) -/
def dfsLoop (c : Ctx n) (stackLimit szLimit : Option Nat) :
    Nat → Diag n → List Nat → List (Nat × Option (List Nat)) → Bool → Diag n × Outcome
  | 0, d, _, _, complete => (d, .ok complete)
  | _, d, _, [], complete => (d, .ok complete)
  | fuel+1, d, seen, (node, succ?) :: stack, complete =>
    let step (d : Diag n) (succ : List Nat) : Diag n × Outcome :=
      let succ := dropSeen seen succ
      match succ with
      | [] => dfsLoop c stackLimit szLimit fuel d seen stack complete
      | s :: restSucc =>
        if hit stackLimit stack.length then
          dfsLoop c stackLimit szLimit fuel d seen stack false
        else
          dfsLoop c stackLimit szLimit fuel d (s :: seen) ((s, none) :: (node, some restSucc) :: stack) complete
    match succ? with
    | some succ => step d succ
    | none =>
      if hit szLimit d.size && !d.isExp node then
        (d, .ok false)
      else
        let (d', okk) := expandNode c d node
        if !okk then (d', .err) else step d' (sortNat (d'.succs node))

/-- fuel: an iteration pops a stack entry or pushes one successor of the top, so with at most `fuelOf n` nodes there are
    fewer than `2 * (fuelOf n)²` of them (not proved; were the fuel to run out, the literal tie with the real diagram
    would show a difference) -/
def expandDfs (c : Ctx n) (d : Diag n) (start : Nat) (stackLimit szLimit : Option Nat) : Diag n × Outcome :=
  dfsLoop c stackLimit szLimit (2 * fuelOf n * (fuelOf n)) d [start] [(start, none)] true

def interB (p q : Space n) : Bool :=
  (List.finRange n).all fun i => match p[i], q[i] with
    | some a, some b => a == b
    | _, _ => true

def targetLevel (c : Ctx n) (target : Space n) (szLimit : Option Nat) :
    List Nat → Diag n → List Nat → List Nat → Diag n × List Nat × List Nat × Option Outcome
  | [], d, seen, next => (d, seen, next, none)
  | node :: rest, d, seen, next =>
    let sp := d.space node
    if !interB sp target then targetLevel c target szLimit rest d seen next
    else if sp.leB target && sp != target then targetLevel c target szLimit rest d seen next
    else if hit szLimit d.size && !d.isExp node then
      (d, seen, next, some (.ok false))
    else
      let (d', okk) := expandNode c d node
      if !okk then (d', seen, next, some .err)
      else
        let (seen', next') := addSeen (sortNat (d'.succs node)) (seen, next)
        targetLevel c target szLimit rest d' seen' next'

def targetLoop (c : Ctx n) (target : Space n) (szLimit : Option Nat) :
    Nat → Diag n → List Nat → List Nat → Diag n × Outcome
  | 0, d, _, _ => (d, .ok true)
  | fuel+1, d, seen, cur =>
    if cur.isEmpty then (d, .ok true) else
    let (d', seen', next, early) := targetLevel c target szLimit cur d seen []
    match early with
    | some o => (d', o)
    | none => targetLoop c target szLimit fuel d' seen' next

def expandToTarget (c : Ctx n) (d : Diag n) (target : Space n) (szLimit : Option Nat) : Diag n × Outcome :=
  targetLoop c target szLimit (fuelOf n) d [0] [0]

def minTrapsIn (N : Net n) (p : Space n) : List (Space n) :=
  let cands := (trapSpaces N).filter fun q => q.leB p
  cands.filter fun q => !(cands.any fun r => (r != q) && r.leB q)

/-- `_ensure_node(parent, motif)` for an arbitrary motif: node of `perc motif`, edge with the motif -/
def ensureChild (c : Ctx n) (d : Diag n) (parent : Option Nat) (motif : Space n) : Diag n × Nat :=
  let r := SDm.ensureNode d.core (perc c.N motif)
  match parent with
  | none => ({ d with core := r.1 }, r.2)
  | some i => ({ d with core := { r.1 with edges := r.1.edges ++ [(i, r.2, motif)] } }, r.2)

def setExp (d : Diag n) (i : Nat) : Diag n :=
  { d with core := { d.core with exp := d.core.exp.set i true } }

/-- `skip_to_minimal` given the solver's answer (minimal trap spaces inside the node, any order) -/
def skipToMinimalWith (c : Ctx n) (d : Diag n) (i : Nat) (mins : List (Space n)) : Diag n × Bool :=
  if d.isExp i then (d, false)
  else if mins.length == 1 && mins.head? == some (d.space i) then (setExp d i, true)
  else
    let d' := mins.foldl (fun d m => let r := ensureChild c d (some i) m; setExp r.1 r.2) d
    ({ setExp d' i with skipped := i :: d'.skipped }, true)

/-- `skip_remaining` given the solver's answer at the root -/
def skipRemainingWith (c : Ctx n) (d : Diag n) (mins : List (Space n)) : Diag n × Nat :=
  let (d1, ids) := mins.foldl (fun (acc : Diag n × List (Nat × Space n)) m =>
      let r := ensureChild c acc.1 none m
      (setExp r.1 r.2, acc.2 ++ [(r.2, m)])) (d, [])
  (List.range d1.size).foldl (fun (acc : Diag n × Nat) i =>
      if acc.1.isExp i then acc else
      let sp := acc.1.space i
      let core' := ids.foldl (fun (co : SDm.SD (Space n)) im =>
          if im.2.leB sp then { co with edges := co.edges ++ [(i, im.1, im.2)] } else co) acc.1.core
      ({ setExp { acc.1 with core := core' } i with skipped := i :: acc.1.skipped }, acc.2 + 1)) (d1, 0)

def removeFirst (x : Space n) : List (Space n) → List (Space n)
  | [] => []
  | y :: ys => if y == x then ys else y :: removeFirst x ys

/-- `make_skip_node` of `expand_minimal_spaces` -/
def makeSkipNode (c : Ctx n) (d : Diag n) (i : Nat) (allMins : List (Space n)) : Diag n :=
  if d.isExp i then d else
  let sp := d.space i
  let d' := allMins.foldl (fun d m =>
      if m.leB sp then let r := ensureChild c d (some i) m; setExp r.1 r.2 else d) d
  { setExp d' i with skipped := i :: d'.skipped }

/-- inner `while len(successors) > 0` loop: drops visited successors, and – when no remaining
    minimal trap space lies in the *current node* – drops (and optionally skips) all of them -/
def minDrop (c : Ctx n) (skip : Bool) (allMins : List (Space n)) (nodeHasMin : Bool) (seen : List Nat) :
    List Nat → Diag n → List Nat × Diag n
  | [], d => ([], d)
  | x :: xs, d =>
    if seen.contains x then minDrop c skip allMins nodeHasMin seen xs d
    else if !nodeHasMin then
      minDrop c skip allMins nodeHasMin seen xs (if skip then makeSkipNode c d x allMins else d)
    else (x :: xs, d)

def minLoop (c : Ctx n) (szLimit : Option Nat) (skip : Bool) (allMins : List (Space n)) :
    Nat → Diag n → List Nat → List (Space n) → List (Nat × Option (List Nat)) → Diag n × Outcome
  | 0, d, _, _, _ => (d, .ok true)
  | _, d, _, _, [] => (d, .ok true)
  | fuel+1, d, seen, mins, (node, succ?) :: stack =>
    let step (d : Diag n) (succ : List Nat) : Diag n × Outcome :=
      let sp := d.space node
      let nodeHasMin := mins.any fun m => m.leB sp
      let (succ', d') := minDrop c skip allMins nodeHasMin seen succ d
      match succ' with
      | [] =>
        let isMin := d'.isExp node && (d'.succs node).isEmpty
        minLoop c szLimit skip allMins fuel d' seen (if isMin then removeFirst (d'.space node) mins else mins) stack
      | s :: rest =>
        minLoop c szLimit skip allMins fuel d' (s :: seen) mins ((s, none) :: (node, some rest) :: stack)
    match succ? with
    | some succ => step d succ
    | none =>
      if hit szLimit d.size && !d.isExp node then
        (d, .ok false)
      else
        let (d', okk) := expandNode c d node
        if !okk then (d', .err) else step d' (sortNat (d'.succs node))

def expandMinimalWith (c : Ctx n) (d : Diag n) (start : Nat) (szLimit : Option Nat) (skip : Bool)
    (allMins : List (Space n)) : Diag n × Outcome :=
  minLoop c szLimit skip allMins (2 * fuelOf n * fuelOf n) d [start] allMins [(start, none)]

/-- length of the longest path ending in `i` (the graph is acyclic; `fuel` ≥ number of nodes) -/
def longestTo (edges : List (Nat × Nat)) : Nat → Nat → Nat
  | 0, _ => 0
  | fuel+1, i =>
    (edges.filter (fun e => e.2 == i)).foldl (fun acc e => max acc (longestTo edges fuel e.1 + 1)) 0

def Diag.pairs (d : Diag n) : List (Nat × Nat) := (d.core.edges.map fun e => (e.1, e.2.1)).eraseDups

def Diag.depth (d : Diag n) (i : Nat) : Nat := longestTo d.pairs d.size i

end Balm.Impl
