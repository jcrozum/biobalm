import Balm.Impl.Attr
/-!
# A verified checker for negative feedback vertex sets (C08, assumption E5)

Candidate computation relies on the set `nfvs` returned by AEON being a *negative* feedback vertex set
of the node's percolated network: every cycle of the signed influence graph with an odd number of
negative edges passes through it.  That the set AEON returns has this property is checked per case by
`checkNfvs` against a certificate (a rank and a two-colouring of the remaining variables, computed by
untrusted code): an edge between remaining variables either strictly decreases the rank, or keeps the
rank and changes the colour exactly when it is negative.  `checkNfvs_sound`: if the check passes, every
closed walk among the remaining variables, over the *semantic* signed dependencies of the update
functions inside the node's space, has an even number of negative edges.
-/
namespace Balm.Impl

open Balm

variable {n : Nat}

/-- inside `p`, raising `u` can raise (`neg = false`) / lower (`neg = true`) the update function of `v` -/
def depB (N : Net n) (p : Space n) (u v : Fin n) (neg : Bool) : Bool :=
  (statesOf p).any fun s =>
    !s[u] && (statesOf p).contains (s.set u true) &&
      (if neg then N.f v s && !N.f v (s.set u true) else !N.f v s && N.f v (s.set u true))

structure NCert (n : Nat) where
  rank : Fin n → Nat
  col : Fin n → Bool

/-- the variables that remain: free in `p` and not in the feedback vertex set -/
def remains (p : Space n) (nfvs : List (Fin n)) (u : Fin n) : Bool := (p[u]).isNone && !nfvs.contains u

def edgeOk (c : NCert n) (u v : Fin n) (neg : Bool) : Bool :=
  decide (c.rank v < c.rank u) || (c.rank v == c.rank u && (c.col v == (c.col u != neg)))

def checkNfvs (N : Net n) (p : Space n) (nfvs : List (Fin n)) (c : NCert n) : Bool :=
  (List.finRange n).all fun u => (List.finRange n).all fun v =>
    !(remains p nfvs u && remains p nfvs v) ||
      ((!depB N p u v false || edgeOk c u v false) && (!depB N p u v true || edgeOk c u v true))

/-- the first violated edge, for the failure message -/
def badEdge (N : Net n) (p : Space n) (nfvs : List (Fin n)) (c : NCert n) : Option (Fin n × Fin n) :=
  ((List.finRange n).flatMap fun u => (List.finRange n).map fun v => (u, v)).find? fun e =>
    remains p nfvs e.1 && remains p nfvs e.2 &&
      ((depB N p e.1 e.2 false && !edgeOk c e.1 e.2 false) || (depB N p e.1 e.2 true && !edgeOk c e.1 e.2 true))

/-- walks over signed dependencies among the remaining variables; the Boolean is the parity of the
    number of negative edges -/
inductive SWalk (N : Net n) (p : Space n) (nfvs : List (Fin n)) : Fin n → Fin n → Bool → Prop
  | nil (u) : SWalk N p nfvs u u false
  | cons {u v w : Fin n} {par : Bool} (neg : Bool) :
      remains p nfvs u = true → remains p nfvs v = true → depB N p u v neg = true →
      SWalk N p nfvs v w par → SWalk N p nfvs u w (par != neg)

section
variable {N : Net n} {p : Space n} {nfvs : List (Fin n)} {c : NCert n} {u v w : Fin n} {neg par : Bool}

theorem checkNfvs_edge (h : checkNfvs N p nfvs c = true) (hu : remains p nfvs u = true)
    (hv : remains p nfvs v = true) (hd : depB N p u v neg = true) : edgeOk c u v neg = true := by
  have := List.all_eq_true.1 (List.all_eq_true.1 h u (List.mem_finRange u)) v (List.mem_finRange v)
  cases neg <;> simp_all

theorem edgeOk_iff :
    edgeOk c u v par = true ↔ c.rank v < c.rank u ∨ c.rank v = c.rank u ∧ c.col v = (c.col u != par) := by
  simp [edgeOk]

/-- The condition the checker puts on an edge is closed under composition, the parities adding up:
    it is the invariant of a walk. -/
theorem edgeOk_trans (h1 : edgeOk c u v neg = true) (h2 : edgeOk c v w par = true) :
    edgeOk c u w (par != neg) = true := by
  rw [edgeOk_iff] at *
  rcases h1 with h1 | ⟨e1, c1⟩ <;> rcases h2 with h2 | ⟨e2, c2⟩
  · exact .inl (Nat.lt_trans h2 h1)
  · exact .inl (e2 ▸ h1)
  · exact .inl (e1 ▸ h2)
  · exact .inr ⟨e2.trans e1, by rw [c2, c1, Bool.bne_assoc, bne_comm (a := neg)]⟩

theorem SWalk.edgeOk (h : checkNfvs N p nfvs c = true) (hw : SWalk N p nfvs u w par) :
    edgeOk c u w par = true := by
  induction hw with
  | nil u => exact edgeOk_iff.2 (.inr ⟨rfl, (Bool.bne_false _).symm⟩)
  | cons neg hu hv hd _ ih => exact edgeOk_trans (checkNfvs_edge h hu hv hd) ih

end

/-- **C08 / E5 (`checkNfvs_sound`).** A set that passes the check meets every negative cycle. -/
theorem checkNfvs_sound (N : Net n) (p : Space n) (nfvs : List (Fin n)) (c : NCert n)
    (h : checkNfvs N p nfvs c = true) (u : Fin n) (par : Bool) (hw : SWalk N p nfvs u u par) : par = false := by
  obtain h | ⟨-, h⟩ := edgeOk_iff.1 (hw.edgeOk h)
  · exact absurd h (Nat.lt_irrefl _)
  · revert h; cases c.col u <;> cases par <;> decide

/-- non-vacuity: the negative two-cycle `x ← ¬y, y ← x`; `{x}` is a negative feedback vertex set with the
    trivial certificate, the empty set is rejected with every certificate of the shape below -/
def exampleNegCycle : Net 2 := Net.ofExprs #v[.not (.var 1), .var 0]

example : checkNfvs exampleNegCycle (Vector.replicate 2 none) [⟨0, by omega⟩]
    { rank := fun _ => 0, col := fun _ => false } = true := by decide

example : checkNfvs exampleNegCycle (Vector.replicate 2 none) []
    { rank := fun _ => 0, col := fun i => i.val == 1 } = false := by decide

example : checkNfvs exampleNegCycle (Vector.replicate 2 none) []
    { rank := fun i => i.val, col := fun _ => false } = false := by decide

end Balm.Impl
