import Balm.Impl.Nfvs
/-!
# Model of `expand_block` without source shortcuts and without the motif-avoidant check (C04)

`expand_source_blocks(sd, check_maa=False, optimize_source_nodes=False)`: a level-wise traversal that
expands a node in the ordinary way (`_expand_one_node`) and then follows only the successors of *one*
block - the smallest of the inclusion-minimal sets "everything the variables of the stable motif
depend on, in the node's percolated network".  The state is touched through `expandNode` only.
-/
namespace Balm.Impl

open Balm

variable {n : Nat}

/-- `u` is a regulator of `v` in the network percolated to `p` (essential dependence inside `p`) -/
def regB (N : Net n) (p : Space n) (u v : Fin n) : Bool := depB N p u v false || depB N p u v true

def bwdStep (N : Net n) (p : Space n) (cur : List (Fin n)) : List (Fin n) :=
  (List.finRange n).filter fun u => cur.contains u || cur.any fun v => regB N p u v

/-- `backward_reachable`: the variables and everything they (transitively) depend on, in index order -/
def iter {α : Type} (f : α → α) : Nat → α → α
  | 0, x => x
  | k+1, x => iter f k (f x)

def bwdReach (N : Net n) (p : Space n) (seed : List (Fin n)) : List (Fin n) :=
  iter (bwdStep N p) n ((List.finRange n).filter seed.contains)

/-- the `motif` attribute of an edge: the first stable motif recorded for it -/
def firstMotif (d : Diag n) (i j : Nat) : Option (Space n) :=
  ((SDm.out d.core i).find? (·.2.1 == j)).map (·.2.2)

/-- variables of the reduced stable motif -/
def reducedKeys (p m : Space n) : List (Fin n) :=
  (List.finRange n).filter fun k => (m[k]).isSome && (p[k]).isNone

def blockOfSucc (N : Net n) (d : Diag n) (node s : Nat) : List (Fin n) :=
  match firstMotif d node s with
  | some m => bwdReach N (d.space node) (reducedKeys (d.space node) m)
  | none => []

/-- successors grouped by block, blocks in order of first appearance -/
def groupBlocks : List (Nat × List (Fin n)) → List (List (Fin n) × List Nat) → List (List (Fin n) × List Nat)
  | [], acc => acc
  | (s, b) :: rest, acc =>
    if acc.any (·.1 == b) then groupBlocks rest (acc.map fun e => if e.1 == b then (e.1, e.2 ++ [s]) else e)
    else groupBlocks rest (acc ++ [(b, [s])])

/-- proper inclusion of canonical (index-ordered, duplicate-free) variable lists -/
def properSubset (a b : List (Fin n)) : Bool := a.all b.contains && decide (a.length < b.length)

/-- the successors to follow: those of the smallest inclusion-minimal block (stable sort, first wins) -/
def chooseBlock (blocks : List (List (Fin n) × List Nat)) : List Nat :=
  let minimal := if blocks.length > 1 then blocks.filter fun b => !(blocks.any fun b2 => properSubset b2.1 b.1) else blocks
  match minimal.mergeSort (fun x y => x.2.length ≤ y.2.length) with
  | [] => []
  | b :: _ => b.2

def addSet (xs : List Nat) (acc : List Nat) : List Nat := xs.foldl (fun a x => if a.contains x then a else a ++ [x]) acc

/-- ids of the nodes that are expanded (the `expanded_before` set taken when the call starts) -/
def expandedIds (d : Diag n) : List Nat := (List.range d.size).filter d.isExp

/-- `before`: nodes that were expanded before the call and have not been met yet.  Such a node is
    traversed through *all* its successors (they were not selected by this procedure); a node expanded
    by the call itself is skipped when it is met again.  A level is a set, so a node occurs at most once
    in it: the nodes of `before` met on a level are removed after the level (`blockLoop`). -/
def blockLevel (c : Ctx n) (szLimit : Option Nat) (before : List Nat) :
    List Nat → Diag n → List Nat → Diag n × List Nat × Option Outcome
  | [], d, next => (d, next, none)
  | node :: rest, d, next =>
    if d.isExp node then
      if before.contains node then blockLevel c szLimit before rest d (addSet (d.succs node) next)
      else blockLevel c szLimit before rest d next
    else if hit szLimit d.size then (d, next, some (.ok false))
    else
      let (d', okk) := expandNode c d node
      if !okk then (d', next, some .err)
      else
        let succ := sortNat (d'.succs node)
        match succ with
        | [] => blockLevel c szLimit before rest d' next
        | [s] => blockLevel c szLimit before rest d' (addSet [s] next)
        | _ =>
          let blocks := groupBlocks (succ.map fun s => (s, blockOfSucc c.N d' node s)) []
          blockLevel c szLimit before rest d' (addSet (chooseBlock blocks) next)

def blockLoop (c : Ctx n) (szLimit : Option Nat) : Nat → Diag n → List Nat → List Nat → Diag n × Outcome
  | 0, d, _, _ => (d, .ok true)
  | fuel+1, d, cur, before =>
    if cur.isEmpty then (d, .ok true) else
    let (d', next, early) := blockLevel c szLimit before (sortNat cur) d []
    match early with
    | some o => (d', o)
    | none => blockLoop c szLimit fuel d' next (before.filter fun b => !cur.contains b)

/-- `expand_block(find_motif_avoidant_attractors=False, optimize_source_nodes=False, size_limit)` -/
def expandBlock (c : Ctx n) (d : Diag n) (szLimit : Option Nat) : Diag n × Outcome :=
  blockLoop c szLimit (fuelOf n) d [0] (expandedIds d)

end Balm.Impl

namespace Balm.Impl

open Balm

variable {n : Nat}

/-! ### the general traversal: source shortcuts and the motif-avoidant check as an oracle

`expand_source_blocks(sd, check_maa, size_limit, optimize_source_nodes)`.  The verdicts "this block has
no motif-avoidant attractor candidate" are outcomes of candidate computations on component
sub-diagrams; the model consumes them from a transcript (`clean`), in the order they are asked for. -/

/-- source variables of the network percolated to `p`: free and with identity update inside `p` -/
def sourcesIn (N : Net n) (p : Space n) : List (Fin n) :=
  (List.finRange n).filter fun i => (p[i]).isNone && (statesOf p).all fun s => N.f i s == s[i]

/-- all valuations of the given variables on top of `p`, in `itertools.product` order -/
def valuations (p : Space n) : List (Fin n) → List (Space n)
  | [] => [p]
  | v :: vs => (valuations (p.set v (some false)) vs) ++ (valuations (p.set v (some true)) vs)

structure BlockCfg where
  checkMaa : Bool
  optSrc : Bool
  szLimit : Option Nat

/-- first clean block, consuming one verdict per block asked -/
def pickClean : List (List (Fin n) × List Nat) → List Bool → Option (List Nat) × List Bool
  | [], clean => (none, clean)
  | b :: bs, [] => pickClean bs []          -- transcript exhausted: treated as "not clean"
  | b :: bs, v :: clean => if v then (some b.2, clean) else pickClean bs clean

def minimalBlocks (blocks : List (List (Fin n) × List Nat)) : List (List (Fin n) × List Nat) :=
  let minimal := if blocks.length > 1 then blocks.filter fun b => !(blocks.any fun b2 => properSubset b2.1 b.1) else blocks
  minimal.mergeSort (fun x y => x.2.length ≤ y.2.length)

def blockLevelX (c : Ctx n) (cfg : BlockCfg) (before : List Nat) :
    List Nat → Diag n → List Nat → List Bool → Diag n × List Nat × List Bool × Option Outcome
  | [], d, next, clean => (d, next, clean, none)
  | node :: rest, d, next, clean =>
    if d.isExp node then
      -- met for the first time in this call and expanded before it: continue through all successors
      if before.contains node then blockLevelX c cfg before rest d (addSet (d.succs node) next) clean
      else blockLevelX c cfg before rest d next clean
    else if hit cfg.szLimit d.size then (d, next, clean, some (.ok false))
    else
      let p := d.space node
      let srcs := sourcesIn c.N p
      if !srcs.isEmpty && cfg.optSrc then
        let expected := d.size + 2 ^ srcs.length
        if expected > c.motifLimit then (d, next, clean, some .err)
        else if hit' cfg.szLimit expected then (d, next, clean, some (.ok false))
        else
          let (d', ids) := (valuations p srcs).foldl (fun (acc : Diag n × List Nat) m =>
              let r := ensureChild c acc.1 (some node) m
              (r.1, acc.2 ++ [r.2])) (d, [])
          blockLevelX c cfg before rest (setExp d' node) (addSet ids next) clean
      else
        let (d', okk) := expandNode c d node
        if !okk then (d', next, clean, some .err)
        else
          let succ := sortNat (d'.succs node)
          match succ with
          | [] => blockLevelX c cfg before rest d' next clean
          | s :: more =>
            if more.isEmpty && !cfg.checkMaa then blockLevelX c cfg before rest d' (addSet [s] next) clean
            else
              let blocks := minimalBlocks (groupBlocks (succ.map fun s => (s, blockOfSucc c.N d' node s)) [])
              if !cfg.checkMaa then
                blockLevelX c cfg before rest d' (addSet (match blocks with | [] => [] | b :: _ => b.2) next) clean
              else
                let (pick, clean') := pickClean blocks clean
                match pick with
                | some nodes => blockLevelX c cfg before rest d' (addSet nodes next) clean'
                | none => blockLevelX c cfg before rest d' (addSet succ next) clean'
where
  /-- `size_limit is not None and x > size_limit` -/
  hit' (lim : Option Nat) (x : Nat) : Bool :=
    match lim with
    | some L => decide (x > L)
    | none => false

def blockLoopX (c : Ctx n) (cfg : BlockCfg) : Nat → Diag n → List Nat → List Nat → List Bool → Diag n × Outcome × List Bool
  | 0, d, _, _, clean => (d, .ok true, clean)
  | fuel+1, d, cur, before, clean =>
    if cur.isEmpty then (d, .ok true, clean) else
    let (d', next, clean', early) := blockLevelX c cfg before (sortNat cur) d [] clean
    match early with
    | some o => (d', o, clean')
    | none => blockLoopX c cfg fuel d' next (before.filter fun b => !cur.contains b) clean'

def expandBlockX (c : Ctx n) (d : Diag n) (cfg : BlockCfg) (clean : List Bool) : Diag n × Outcome × List Bool :=
  blockLoopX c cfg (fuelOf n) d [0] (expandedIds d) clean

end Balm.Impl
