import Balm.Impl.Judge
/-!
# Which regions a skip node may ignore (C05, C16)

`compute_attractor_candidates` and `symbolic_attractor_fallback` let a skip node `S` ignore the
intersection `S ∩ n` with another node `n` when (a) `S ⊄ n`, (b) `n` is not a skip node and every node
below `n` is an ordinary expanded node, and (c) the attractor search in `n` gave an empty answer
(`attractor_candidates == []` or `attractor_seeds == []`).  `skipExclusions` is that rule on a dump of
the real diagram; the harness compares it with the list of avoided spaces the real code hands to the
solver.  `exclusion_sound`: under (b) and (c) every attractor inside `n` is an *own* attractor (inside
the node, inside none of its successors) of an ordinary expanded node reachable from `n` – so it is
reported there and the skip node loses nothing by ignoring it.
-/
namespace Balm.Impl

open Balm

variable {n : Nat}

/-- every node reachable from `i` by a non-empty path (of length ≤ fuel) is expanded and not skipped;
    `false` when the fuel runs out -/
def ordBelow (d : Dump n) : Nat → Nat → Bool
  | 0, _ => false
  | f+1, i => (d.succ i).all fun j => (d.node j).expanded && !(d.node j).skipped && ordBelow d f j

/-- condition (b); paths of a diagram over `n` variables have at most `n` edges -/
def Dump.fullyOrdinary (d : Dump n) (i : Nat) : Bool := !(d.node i).skipped && ordBelow d (n + 2) i

def interS (p q : Space n) : Option (Space n) :=
  if interB p q then some (Vector.ofFn fun i => match p[i] with | some b => some b | none => q[i]) else none

/-- the regions the skip node with space `S` ignores; `emptyOwn` = ids of the nodes with an empty answer -/
def skipExclusions (d : Dump n) (emptyOwn : List Nat) (S : Space n) : List (Space n) :=
  (List.range d.nodes.length).filterMap fun i =>
    if S.leB (d.space i) then none
    else if !d.fullyOrdinary i then none
    else if emptyOwn.contains i then interS S (d.space i) else none

def ownOf (d : Dump n) (A : List (State n)) (i : Nat) : Bool :=
  attrIn A (d.space i) && !((d.succ i).any fun j => attrIn A (d.space j))

inductive DReach (d : Dump n) : Nat → Nat → Prop
  | refl (i) : DReach d i i
  | step {i j k} : j ∈ d.succ i → DReach d j k → DReach d i k

theorem ordBelow_own (d : Dump n) (A : List (State n)) :
    ∀ (f i : Nat), ordBelow d f i = true → attrIn A (d.space i) = true →
      ∃ m, DReach d i m ∧ ownOf d A m = true ∧
        (m = i ∨ ((d.node m).expanded = true ∧ (d.node m).skipped = false)) := by
  intro f i
  fun_induction ordBelow d f i with
  | case1 => exact fun h => nomatch h
  | case2 f i ih =>
    intro h hin
    simp only [List.all_eq_true, Bool.and_eq_true, Bool.not_eq_true'] at h
    -- descend into a successor that still contains `A`, as long as there is one
    by_cases hc : (d.succ i).any (fun j => attrIn A (d.space j)) = true
    · obtain ⟨j, hj, hA⟩ := List.any_eq_true.1 hc
      obtain ⟨hord, ho⟩ := h j hj
      obtain ⟨m, hr, hown, hm⟩ := ih j ho hA
      exact ⟨m, .step hj hr, hown, .inr (hm.elim (· ▸ hord) id)⟩
    · exact ⟨i, .refl i, by simpa [ownOf, hin] using hc, .inl rfl⟩

open FinIdx in
theorem interS_le {p q r : Space n} (h : interS p q = some r) : r.le q := by
  unfold interS at h
  split at h <;> cases h
  rename_i hc
  intro i b hq
  have hci := List.all_eq_true.1 hc i (List.mem_finRange i)
  rw [ofFn_get]
  cases hp : p[i] with
  | none => exact hq
  | some a => rw [hp, hq] at hci; rw [beq_iff_eq.1 hci]

theorem attrIn_of_le {A : List (State n)} {p q : Space n} (h : p.le q) (hA : attrIn A p = true) :
    attrIn A q = true :=
  List.all_eq_true.2 fun s hs =>
    (Space.memB_iff q s).2 (((Space.memB_iff p s).1 (List.all_eq_true.1 hA s hs)).of_ext h)

/-- **C05 (`exclusion_sound`).** A region ignored by a skip node contains only attractors that are own
    attractors of ordinary expanded nodes, provided the nodes flagged as "empty answer" indeed have no
    own attractor (that is C01/C08 for ordinary nodes). -/
theorem exclusion_sound (d : Dump n) (atts : List (List (State n))) (emptyOwn : List Nat) (S q : Space n)
    (hempty : ∀ i ∈ emptyOwn, ∀ A ∈ atts, ownOf d A i = false)
    (hq : q ∈ skipExclusions d emptyOwn S) (A : List (State n)) (hA : A ∈ atts) (hin : attrIn A q = true) :
    ∃ m, ownOf d A m = true ∧ (d.node m).expanded = true ∧ (d.node m).skipped = false := by
  obtain ⟨i, -, hi⟩ := List.mem_filterMap.1 hq
  obtain ⟨hord, hemp, hi⟩ : ordBelow d (n + 2) i = true ∧ i ∈ emptyOwn ∧ interS S (d.space i) = some q := by
    grind [Dump.fullyOrdinary]
  obtain ⟨m, -, hown, rfl | hm⟩ := ordBelow_own d A _ i hord (attrIn_of_le (interS_le hi) hin)
  · rw [hempty m hemp A hA] at hown; cases hown
  · exact ⟨m, hown, hm⟩

end Balm.Impl
