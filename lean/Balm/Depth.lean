/-!
# The depth of a node is the length of the longest root path to it (C20)

Two local (Bellman) conditions on a depth function imply that it is the longest-path length (`depth_is_longest`).
After an edge is added, any sequence of relaxations that ends without violated edge restores them
(`relax_to_local`); `updateDepth` mirrors `_update_node_depth` and is one such sequence whenever it reports
completion (`updateDepth_local`).  Whether the loop finishes is C13's concern; on a finite acyclic graph the fuel
`(number of edges + 1)²` is never exhausted in the correspondence runs (the flag is compared).
-/
namespace Balm.Depth

/-- `Path E u v k`: a path of `k` edges from `u` to `v` -/
inductive Path (E : List (Nat × Nat)) : Nat → Nat → Nat → Prop
  | nil (u : Nat) : Path E u u 0
  | snoc {u w v k} : Path E u w k → (w, v) ∈ E → Path E u v (k+1)

/-- local (Bellman) conditions kept by `_update_node_depth` -/
structure Local (E : List (Nat × Nat)) (δ : Nat → Nat) : Prop where
  d1 : ∀ u v, (u, v) ∈ E → δ u + 1 ≤ δ v
  d2 : ∀ v, δ v = 0 ∨ ∃ u, (u, v) ∈ E ∧ δ v = δ u + 1

theorem path_le {E δ} (h : Local E δ) {u v k} (p : Path E u v k) : δ u + k ≤ δ v := by
  induction p with
  | nil => simp
  | snoc _ he ih => have := h.d1 _ _ he; omega

theorem path_attained {E δ} (h : Local E δ) (v : Nat) : ∃ u, δ u = 0 ∧ Path E u v (δ v) := by
  induction hd : δ v generalizing v with
  | zero => exact ⟨v, hd, .nil v⟩
  | succ d ih =>
    obtain h0 | ⟨x, hx, hvx⟩ := h.d2 v
    · omega
    · obtain ⟨u, hu, p⟩ := ih x (by omega)
      exact ⟨u, hu, .snoc p hx⟩

/-- **C20 core (static part).** If the local conditions hold and the root is the only node of depth 0
    (every other node has an incoming edge), then `δ v` is the length of the longest path from the
    root to `v`. -/
theorem depth_is_longest {E δ} (h : Local E δ) (root : Nat)
    (honly : ∀ u, δ u = 0 → u = root) (v : Nat) :
    Path E root v (δ v) ∧ ∀ k, Path E root v k → k ≤ δ v := by
  obtain ⟨u, hu, p⟩ := path_attained h v
  exact ⟨honly u hu ▸ p, fun k p => by have := path_le h p; omega⟩

/-- every positive depth is justified by some incoming edge (monotone under relaxation) -/
def Justified (E : List (Nat × Nat)) (δ : Nat → Nat) : Prop :=
  ∀ v, δ v = 0 ∨ ∃ u, (u, v) ∈ E ∧ δ v ≤ δ u + 1

inductive Step (E : List (Nat × Nat)) : (Nat → Nat) → (Nat → Nat) → Prop
  | relax (δ : Nat → Nat) (x y : Nat) : (x, y) ∈ E → δ y < δ x + 1 →
      Step E δ (fun w => if w = y then δ x + 1 else δ w)

inductive Steps (E : List (Nat × Nat)) : (Nat → Nat) → (Nat → Nat) → Prop
  | refl (δ) : Steps E δ δ
  | tail {δ δ' δ''} : Steps E δ δ' → Step E δ' δ'' → Steps E δ δ''

theorem Step.mono {E δ δ'} (h : Step E δ δ') : ∀ w, δ w ≤ δ' w := by
  cases h with
  | relax x y _ hlt =>
    intro w
    by_cases hw : w = y
    · subst hw; simp; omega
    · simp [hw]

/-- relaxation keeps `Justified`: the raised node is justified by the relaxed edge, and the depth of a
    justifying predecessor can only have grown -/
theorem Step.justified {E δ δ'} (h : Step E δ δ') (hj : Justified E δ) : Justified E δ' := by
  intro v
  have hm := h.mono
  cases h with
  | relax x y he hlt =>
    dsimp only at hm ⊢
    split
    · next hv => exact .inr ⟨x, hv ▸ he, Nat.add_le_add_right (hm x) 1⟩
    · exact (hj v).imp_right fun ⟨u, hu, hle⟩ => ⟨u, hu, Nat.le_trans hle (Nat.add_le_add_right (hm u) 1)⟩

theorem Steps.justified {E δ δ'} (h : Steps E δ δ') (hj : Justified E δ) : Justified E δ' := by
  induction h with
  | refl => exact hj
  | tail _ hs ih => exact hs.justified ih

theorem Local.justified {E₀ E δ} (h : Local E₀ δ) (hsub : ∀ e ∈ E₀, e ∈ E) : Justified E δ := fun v =>
  (h.d2 v).imp_right fun ⟨u, hu, hv⟩ => ⟨u, hsub _ hu, Nat.le_of_eq hv⟩

theorem Justified.local {E δ} (hj : Justified E δ) (hdone : ∀ u v, (u, v) ∈ E → δ u + 1 ≤ δ v) : Local E δ :=
  ⟨hdone, fun v => (hj v).imp_right fun ⟨u, hu, hle⟩ => ⟨u, hu, Nat.le_antisymm hle (hdone u v hu)⟩⟩

/-- **C20 core (dynamic part).** After adding an edge, ANY sequence of relaxations that ends in a
    state without violated edge re-establishes the local conditions – hence, with
    `depth_is_longest`, depth = longest root path. `_update_node_depth` is one such
    sequence (a work-list whose pending set contains the sources of all violated edges).
    (`hacyc` is not used: a self-loop would be an edge that `hdone` excludes.) -/
theorem relax_to_local {E₀ : List (Nat × Nat)} {δ δ' : Nat → Nat} (e : Nat × Nat)
    (hold : Local E₀ δ) (hacyc : ∀ x, (x, x) ∉ e :: E₀)
    (hrun : Steps (e :: E₀) δ δ')
    (hdone : ∀ u v, (u, v) ∈ e :: E₀ → δ' u + 1 ≤ δ' v) :
    Local (e :: E₀) δ' :=
  (hrun.justified (hold.justified fun _ => List.mem_cons_of_mem e)).local hdone

def setD (δ : Nat → Nat) (y v : Nat) : Nat → Nat := fun w => if w = y then v else δ w

/-- relax all out-edges of `x`: returns the new depths and the raised successors -/
def relaxNode (E : List (Nat × Nat)) (x : Nat) : List Nat → (Nat → Nat) × List Nat → (Nat → Nat) × List Nat
  | [], acc => acc
  | y :: ys, acc =>
    if acc.1 y < acc.1 x + 1 then relaxNode E x ys (setD acc.1 y (acc.1 x + 1), acc.2 ++ [y])
    else relaxNode E x ys acc

def succsOf (E : List (Nat × Nat)) (x : Nat) : List Nat := (E.filter (·.1 == x)).map (·.2)

def relaxLoop (E : List (Nat × Nat)) : Nat → List Nat → (Nat → Nat) → (Nat → Nat) × Bool
  | 0, pending, δ => (δ, pending.isEmpty)
  | _+1, [], δ => (δ, true)
  | f+1, x :: rest, δ =>
    let r := relaxNode E x (succsOf E x) (δ, [])
    relaxLoop E f (rest ++ r.2) r.1

/-- `_ensure_edge` + `_update_node_depth` for the new edge `(p, c)` (already part of `E`) -/
def updateDepth (E : List (Nat × Nat)) (δ : Nat → Nat) (p c : Nat) : (Nat → Nat) × Bool :=
  if δ p + 1 ≤ δ c then (δ, true)
  else relaxLoop E ((E.length + 1) * (E.length + 1)) [c] (setD δ c (δ p + 1))

theorem mem_succsOf (E : List (Nat × Nat)) (x y : Nat) : y ∈ succsOf E x ↔ (x, y) ∈ E := by
  simp [succsOf]

/-- The invariant of the work-list, at every level of it: `δ` comes from `δ₀` by relaxations, and every edge
    that is still violated is excused by `P` (its source is pending, or it is about to be processed). -/
def Inv (E : List (Nat × Nat)) (δ₀ δ : Nat → Nat) (P : Nat → Nat → Prop) : Prop :=
  Steps E δ₀ δ ∧ ∀ u v, (u, v) ∈ E → δ v < δ u + 1 → P u v

theorem Inv.imp {E δ₀ δ} {P Q : Nat → Nat → Prop} (h : Inv E δ₀ δ P)
    (hPQ : ∀ u v, δ v < δ u + 1 → P u v → Q u v) : Inv E δ₀ δ Q :=
  ⟨h.1, fun u v he hv => hPQ u v hv (h.2 u v he hv)⟩

theorem Inv.relax {E δ₀ δ P x y} (h : Inv E δ₀ δ P) (he : (x, y) ∈ E) (hlt : δ y < δ x + 1) :
    Inv E δ₀ (setD δ y (δ x + 1)) fun u v => u = y ∨ (P u v ∧ ¬ (u = x ∧ v = y)) := by
  refine ⟨h.1.tail (.relax δ x y he hlt), fun u v huv hv => ?_⟩
  by_cases hu : u = y
  · exact .inl hu
  · simp only [setD, if_neg hu] at hv
    split at hv
    · subst v
      exact .inr ⟨h.2 u y huv (by omega), fun ⟨hx, _⟩ => by subst hx; omega⟩
    · exact .inr ⟨h.2 u v huv hv, fun ⟨_, hy⟩ => absurd hy ‹_›⟩

theorem relaxNode_inv {E δ₀ x} (rest ys : List Nat) (acc : (Nat → Nat) × List Nat) (hys : ∀ y ∈ ys, (x, y) ∈ E)
    (h : Inv E δ₀ acc.1 fun u v => u ∈ rest ++ acc.2 ∨ (u = x ∧ v ∈ ys)) :
    Inv E δ₀ (relaxNode E x ys acc).1 fun u _ => u ∈ rest ++ (relaxNode E x ys acc).2 := by
  fun_induction relaxNode E x ys acc with
  | case1 acc => exact h.imp fun u v _ hP => hP.resolve_right (nomatch ·.2)
  | case2 y ys acc hlt ih =>
    refine ih (fun z hz => hys z (.tail _ hz)) ((h.relax (hys y (.head _)) hlt).imp fun u v _ hP => ?_)
    rw [← List.append_assoc, List.mem_append, List.mem_singleton]
    rcases hP with hy | ⟨hin | ⟨hx, hm⟩, hn⟩
    · exact .inl (.inr hy)
    · exact .inl (.inl hin)
    · exact .inr ⟨hx, (List.mem_cons.1 hm).resolve_left fun e => hn ⟨hx, e⟩⟩
  | case3 y ys acc hlt ih =>
    refine ih (fun z hz => hys z (.tail _ hz)) (h.imp fun u v hv hP => hP.imp_right fun ⟨hx, hm⟩ => ⟨hx, ?_⟩)
    exact (List.mem_cons.1 hm).resolve_left fun e => hlt (e ▸ hx ▸ hv)

theorem relaxLoop_inv {E δ₀} (fuel : Nat) (pending : List Nat) (δ : Nat → Nat)
    (h : Inv E δ₀ δ fun u _ => u ∈ pending) (hdone : (relaxLoop E fuel pending δ).2 = true) :
    Inv E δ₀ (relaxLoop E fuel pending δ).1 fun _ _ => False := by
  fun_induction relaxLoop E fuel pending δ with
  | case1 pending δ => rw [List.isEmpty_iff.1 hdone] at h; exact h.imp fun _ _ _ hP => nomatch hP
  | case2 _ δ => exact h.imp fun _ _ _ hP => nomatch hP
  | case3 f x rest δ r ih =>
    refine ih (relaxNode_inv rest _ (δ, []) (fun y => (mem_succsOf E x y).1) ⟨h.1, fun u v he hv => ?_⟩) hdone
    rcases List.mem_cons.1 (h.2 u v he hv) with rfl | hr
    · exact .inr ⟨rfl, (mem_succsOf E u v).2 he⟩
    · exact .inl (List.mem_append_left _ hr)

theorem updateDepth_inv {E δ₀ δ p c} (hpc : (p, c) ∈ E) (h : Inv E δ₀ δ fun u v => u = p ∧ v = c)
    (hdone : (updateDepth E δ p c).2 = true) : Inv E δ₀ (updateDepth E δ p c).1 fun _ _ => False := by
  unfold updateDepth at hdone ⊢
  by_cases hle : δ p + 1 ≤ δ c
  · rw [if_pos hle]
    exact h.imp fun u v hv ⟨hu, hv'⟩ => by subst hu hv'; omega
  · rw [if_neg hle] at hdone ⊢
    exact relaxLoop_inv _ _ _ ((h.relax hpc (by omega)).imp fun u v _ hP =>
      List.mem_singleton.2 (hP.resolve_right fun h => h.2 h.1)) hdone

/-- **C20.** If the work-list run of `_update_node_depth` for a new edge `(p, c)` reports completion, the
    local conditions hold again with the updated depths – so, by `depth_is_longest`, every node's
    depth is the length of the longest path from the root to it. -/
theorem updateDepth_local (E₀ : List (Nat × Nat)) (δ : Nat → Nat) (p c : Nat) (hold : Local E₀ δ)
    (hacyc : ∀ z, (z, z) ∉ (p, c) :: E₀)
    (hdone : (updateDepth ((p, c) :: E₀) δ p c).2 = true) :
    Local ((p, c) :: E₀) (updateDepth ((p, c) :: E₀) δ p c).1 := by
  -- under the old depths the new edge is the only one that can be violated
  have h := updateDepth_inv (δ₀ := δ) List.mem_cons_self ⟨.refl δ, fun u v he hv => by
    rcases List.mem_cons.1 he with e | e
    · exact Prod.mk.inj e
    · have := hold.d1 u v e; omega⟩ hdone
  exact relax_to_local (p, c) hold hacyc h.1 fun u v he => Nat.le_of_not_lt (h.2 u v he)

end Balm.Depth
