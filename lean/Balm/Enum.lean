import Balm.Perc
namespace Balm

/-! Concrete enumeration layer: every `Prop` of the semantics (`Space.Mem`, `TrapSpace`, the constancy oracle) becomes decidable by listing states and spaces. -/

def allVec {α : Type} (alphabet : List α) : (n : Nat) → List (Vector α n)
  | 0 => [#v[]]
  | n+1 => (allVec alphabet n).flatMap fun v => alphabet.map fun a => v.push a

theorem mem_allVec {α : Type} (alphabet : List α) (hall : ∀ a : α, a ∈ alphabet) :
    ∀ (n : Nat) (v : Vector α n), v ∈ allVec alphabet n
  | 0, _ => List.mem_singleton.2 Vector.eq_empty
  | n+1, v => List.mem_flatMap.2 ⟨v.pop, mem_allVec alphabet hall n v.pop,
      List.mem_map.2 ⟨v.back, hall _, v.push_pop_back⟩⟩

def allStates (n : Nat) : List (State n) := allVec [false, true] n
def allSpaces (n : Nat) : List (Space n) := allVec [none, some false, some true] n

theorem mem_allStates {n : Nat} (s : State n) : s ∈ allStates n :=
  mem_allVec _ (by intro a; cases a <;> simp) n s

theorem mem_allSpaces {n : Nat} (p : Space n) : p ∈ allSpaces n :=
  mem_allVec _ (by intro a; rcases a with _ | b; simp; cases b <;> simp) n p

theorem allVec_length {α : Type} (alphabet : List α) : ∀ n, (allVec alphabet n).length = alphabet.length ^ n
  | 0 => rfl
  | n+1 => by
    rw [allVec, List.length_flatMap, Nat.pow_succ, ← allVec_length alphabet n]
    simp [List.map_const', List.sum_replicate_nat]

theorem allStates_length (n : Nat) : (allStates n).length = 2 ^ n := allVec_length _ n

theorem allSpaces_length (n : Nat) : (allSpaces n).length = 3 ^ n := allVec_length _ n

variable {n : Nat}

def Space.memB (p : Space n) (s : State n) : Bool :=
  (List.finRange n).all fun i => match p[i] with
    | none => true
    | some b => s[i] == b

theorem Space.memB_iff (p : Space n) (s : State n) : p.memB s = true ↔ p.Mem s := by
  simp only [Space.memB, List.all_eq_true, List.mem_finRange, true_implies, Space.Mem]
  refine forall_congr' fun i => ?_
  open FinIdx in cases p[i] <;> simp

def statesOf (p : Space n) : List (State n) := (allStates n).filter p.memB

theorem mem_statesOf (p : Space n) (s : State n) : s ∈ statesOf p ↔ p.Mem s := by
  simp [statesOf, mem_allStates, Space.memB_iff]

def constOnB (f : State n → Bool) (p : Space n) : Option Bool :=
  match statesOf p with
  | [] => none
  | s :: rest => if rest.all (fun t => f t == f s) then some (f s) else none

theorem constOnB_spec (f : State n → Bool) (p : Space n) (b : Bool) :
    constOnB f p = some b ↔ ∀ s, p.Mem s → f s = b := by
  -- a space is never empty: `statesOf p` has a head, and `f` is constant iff it agrees with the head
  obtain ⟨s, hs⟩ := Space.exists_mem p
  rw [← mem_statesOf] at hs
  simp only [← mem_statesOf, constOnB]
  split <;> grind

def constOnOf (N : Net n) : ConstOn N where
  c := fun i p => constOnB (N.f i) p
  spec := fun i p b => constOnB_spec (N.f i) p b

def isTrapB (N : Net n) (p : Space n) : Bool :=
  (statesOf p).all fun s => (List.finRange n).all fun i => p.memB (step N s i)

theorem isTrapB_iff (N : Net n) (p : Space n) : isTrapB N p = true ↔ TrapSpace N p := by
  simp only [isTrapB, List.all_eq_true, mem_statesOf, List.mem_finRange, true_implies,
    Space.memB_iff]
  exact Iff.rfl

def trapSpaces (N : Net n) : List (Space n) := (allSpaces n).filter (isTrapB N)

theorem mem_trapSpaces (N : Net n) (p : Space n) : p ∈ trapSpaces N ↔ TrapSpace N p := by
  simp [trapSpaces, mem_allSpaces, isTrapB_iff]

end Balm
