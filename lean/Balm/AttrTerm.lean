namespace Balm.AttrTerm

/-- what termination of the repaired `symbolic_attractor_test` needs to know about one pass of its
    main loop. `μ` = (unsaturated variables) + (states outside `reach_set`) + (states outside `avoid`);
    `pass s force` = one iteration of `while not all_done`, returning the new state and `all_done`. -/
structure PassSpec (S : Type) where
  μ : S → Nat
  pass : S → Bool → S × Bool
  /-- sets only grow -/
  mono : ∀ s f, μ (pass s f).1 ≤ μ s
  /-- the repair: when the size heuristic is overridden, a pass that is not the last one grows
      something (some saturated variable has a successor outside `reach_set` and is now taken,
      or `avoid` grows, or a variable is promoted) -/
  forced : ∀ s, (pass s true).2 = false → μ (pass s true).1 < μ s

variable {S : Type}

/-- the repaired main loop: after a pass that changed nothing, the next pass ignores the heuristic -/
def loop (P : PassSpec S) : Nat → S → Bool → Option S
  | 0, _, _ => none
  | n+1, s, f =>
    if (P.pass s f).2 then some (P.pass s f).1
    else loop P n (P.pass s f).1 (decide (P.μ (P.pass s f).1 = P.μ s))

/-- **C13 core for F5.** `2·μ + 2` passes always suffice: the repaired loop terminates, whatever the
    size heuristic answers. (The unrepaired loop is the same without the `force` flag; a pass that
    declines growth and changes nothing then repeats forever – the observed livelock.) -/
theorem loop_terminates (P : PassSpec S) :
    ∀ (n : Nat) (s : S) (f : Bool), 2 * P.μ s + (if f then 1 else 2) ≤ n → (loop P n s f).isSome := by
  intro n s f h
  fun_induction loop P n s f with
  | case1 s f => cases f <;> simp at h
  | case2 => rfl
  | case3 n s f hnd ih =>
    -- a forced pass that is not the last one lowers `μ`; an unforced one lowers it or forces the next
    have hm := P.mono s f
    have hf : f = true → P.μ (P.pass s f).1 < P.μ s := by
      rintro rfl; exact P.forced s (by simpa using hnd)
    refine ih ?_
    grind

end Balm.AttrTerm
