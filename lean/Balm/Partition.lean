/-!
# The partition argument, abstractly (C01, C02, C03)

Over an environment `PEnv` that knows only the order on spaces, which spaces are node spaces, the successors
of a node and that they cover what lies strictly inside it: an attractor is own for exactly the node of its
least node space (`own_iff`), and the successor-free nodes are the minimal trap spaces (`leaf_iff_minimal`).
`Balm.PartitionC` supplies the environment of a concrete network.
-/
namespace Balm.Partition

structure PEnv (σ : Type) where
  le : σ → σ → Prop
  le_refl' : ∀ a, le a a
  le_trans : ∀ {a b c}, le a b → le b c → le a c
  le_antisymm : ∀ {a b}, le a b → le b a → a = b
  good : σ → Prop                         -- percolation-closed trap space
  rel : σ → Prop                          -- fixes every identity input; the root's successors cover only such spaces
  root : σ
  root_good : good root
  children : σ → List σ                   -- successor spaces of a node: percolated stable motifs
  child_le : ∀ p c, good p → c ∈ children p → le c p ∧ c ≠ p
  child_good : ∀ p c, good p → c ∈ children p → good c
  -- from the specification of the stable motifs and monotonicity of percolation
  cover : ∀ p T, good p → good T → rel T → le T p → T ≠ p → ∃ c ∈ children p, le T c
  wf : WellFounded (fun a b : σ => le a b ∧ a ≠ b)

variable {σ : Type} (E : PEnv σ)

/-- the spaces that occur as nodes of the fully expanded diagram -/
inductive Node : σ → Prop
  | root : Node E.root
  | child {p c} : Node p → c ∈ E.children p → Node c

theorem Node.good {E : PEnv σ} {p : σ} (h : Node E p) : E.good p := by
  induction h with
  | root => exact E.root_good
  | child _ hc ih => exact E.child_good _ _ ih hc

theorem Node.le_root {E : PEnv σ} {p : σ} (h : Node E p) : E.le p E.root := by
  induction h with
  | root => exact E.le_refl' _
  | child hp hc ih => exact E.le_trans (E.child_le _ _ hp.good hc).1 ih

/-- an attractor, seen through the spaces that contain it -/
structure Att (E : PEnv σ) where
  In : σ → Prop
  mono : ∀ {p q}, In p → E.le p q → In q
  least : σ
  least_good : E.good least
  least_rel : E.rel least
  least_in : In least
  least_le : ∀ p, E.good p → In p → E.le least p
  in_root : In E.root

def Own (a : Att E) (p : σ) : Prop := Node E p ∧ a.In p ∧ ∀ c ∈ E.children p, ¬ a.In c

theorem Node.of_le {T : σ} (hT : E.good T) (hr : E.rel T) : ∀ p, Node E p → E.le T p → Node E T := by
  intro p
  induction p using E.wf.induction with
  | _ p ih =>
    intro hp hle
    by_cases heq : T = p
    · rw [heq]; exact hp
    · obtain ⟨c, hc, hlc⟩ := E.cover p T hp.good hT hr hle heq
      exact ih c (E.child_le p c hp.good hc) (Node.child hp hc) hlc

theorem node_least (a : Att E) : Node E a.least :=
  Node.of_le E a.least_good a.least_rel E.root Node.root (a.least_le E.root E.root_good a.in_root)

/-- **C01 partition theorem (abstract form).** In the fully expanded diagram an attractor is own
    for exactly one node: the node of the least percolated trap space containing it. -/
theorem own_iff (a : Att E) (p : σ) : Own E a p ↔ p = a.least := by
  constructor
  · rintro ⟨hn, hin, hno⟩
    refine Classical.byContradiction fun hne => ?_
    obtain ⟨c, hc, hlc⟩ := E.cover p a.least hn.good a.least_good a.least_rel (a.least_le p hn.good hin)
      (Ne.symm hne)
    exact hno c hc (a.mono a.least_in hlc)
  · rintro rfl
    refine ⟨node_least E a, a.least_in, fun c hc hin => ?_⟩
    have hcl := E.child_le a.least c a.least_good hc
    exact hcl.2 (E.le_antisymm hcl.1 (a.least_le c (E.child_good _ _ a.least_good hc) hin))

theorem exists_unique_own (a : Att E) : ∃ p, Own E a p ∧ ∀ q, Own E a q → q = p :=
  ⟨a.least, (own_iff E a a.least).2 rfl, fun q hq => (own_iff E a q).1 hq⟩

/-- a minimal trap space of the network, seen abstractly -/
structure IsMinTrap (T : σ) : Prop where
  good : E.good T
  rel : E.rel T
  in_root : E.le T E.root
  minimal : ∀ U, E.good U → E.rel U → E.le U T → U = T

/-- **C02/C03 core.** In the fully expanded diagram the nodes without successors are exactly the
    minimal trap spaces of the network (given that successors of a node are relevant – they fix
    every identity input – which the root rule guarantees; `hrootrel` says the same of a root without
    successors, which is then a minimal trap space and fixes its inputs by `min_fixes_input` - no theorem
    discharges it). -/
theorem leaf_iff_minimal (hrel : ∀ p c, Node E p → c ∈ E.children p → E.rel c)
    (hrootrel : E.children E.root = [] → E.rel E.root) (T : σ) :
    (Node E T ∧ E.children T = []) ↔ (IsMinTrap E T) := by
  constructor
  · rintro ⟨hn, hleaf⟩
    have hrelT : E.rel T := by
      cases hn with
      | root => exact hrootrel hleaf
      | child hp hc => exact hrel _ _ hp hc
    refine ⟨hn.good, hrelT, hn.le_root, fun U hU hUr hUT => Classical.byContradiction fun hne => ?_⟩
    obtain ⟨c, hc, _⟩ := E.cover T U hn.good hU hUr hUT hne
    rw [hleaf] at hc; cases hc
  · intro hm
    have hnode : Node E T := Node.of_le E hm.good hm.rel E.root Node.root hm.in_root
    refine ⟨hnode, List.eq_nil_iff_forall_not_mem.2 fun c hc => ?_⟩
    have hlt := E.child_le T c hm.good hc
    exact hlt.2 (hm.minimal c (E.child_good T c hm.good hc) (hrel T c hnode hc) hlt.1)

end Balm.Partition
