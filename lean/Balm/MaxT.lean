import Balm.Enum
namespace Balm

variable {n : Nat}

def Space.leB (p q : Space n) : Bool :=
  (List.finRange n).all fun i => match q[i] with
    | none => true
    | some b => p[i] == some b

open FinIdx in
theorem Space.leB_iff (p q : Space n) : p.leB q = true ↔ p.le q := by
  simp only [Space.leB, List.all_eq_true, List.mem_finRange, true_implies, Space.le, Space.Ext]
  exact forall_congr' fun i => by cases q[i] <;> simp

/-- the shape of `maxTrapsIn`, `minTrapsIn` and `solveRef .min` -/
theorem mem_filter_undominated {α : Type} [BEq α] [LawfulBEq α] (l : List α) (rel : α → α → Bool) (x : α) :
    x ∈ l.filter (fun q => !(l.any fun r => (r != q) && rel r q)) ↔
      x ∈ l ∧ ∀ r ∈ l, rel r x = true → r = x := by
  simp only [List.mem_filter, Bool.not_eq_true', List.any_eq_false, Bool.and_eq_true, bne_iff_ne, ne_eq, not_and]
  exact and_congr_right fun _ => forall₂_congr fun _ _ =>
    ⟨fun h hr => Classical.byContradiction fun hne => h hne hr, fun h hne hr => hne (h hr)⟩

variable (N : Net n)

/-- candidates for stable motifs of the node space `p`: trap spaces strictly inside that fix `srcs` -/
def motifCand (p : Space n) (srcs : List (Fin n)) (q : Space n) : Bool :=
  isTrapB N q && q.leB p && (q != p) && srcs.all (fun i => (q[i]).isSome)

open FinIdx in
theorem motifCand_iff (p : Space n) (srcs : List (Fin n)) (q : Space n) :
    motifCand N p srcs q = true ↔ TrapSpace N q ∧ q.le p ∧ q ≠ p ∧ ∀ i ∈ srcs, (q[i]).isSome = true := by
  simp only [motifCand, Bool.and_eq_true, isTrapB_iff, Space.leB_iff, bne_iff_ne, ne_eq, List.all_eq_true, and_assoc]

def maxTrapsIn (p : Space n) (srcs : List (Fin n)) : List (Space n) :=
  let cands := (allSpaces n).filter (motifCand N p srcs)
  cands.filter fun q => !(cands.any fun r => (r != q) && q.leB r)

theorem mem_maxTrapsIn (p : Space n) (srcs : List (Fin n)) (m : Space n) :
    m ∈ maxTrapsIn N p srcs ↔
      motifCand N p srcs m = true ∧ ∀ r, motifCand N p srcs r = true → m.le r → r = m := by
  rw [maxTrapsIn, mem_filter_undominated]
  simp only [List.mem_filter, mem_allSpaces, true_and, Space.leB_iff]

theorem exists_lowest {α : Type} (μ : α → Nat) (P : α → Prop) (a : α) (ha : P a) : ∃ m, P m ∧ ∀ b, P b → μ m ≤ μ b := by
  induction h : μ a using Nat.strongRecOn generalizing a with
  | _ k ih =>
    by_cases hlow : ∃ b, P b ∧ μ b < μ a
    · obtain ⟨b, hb, hlt⟩ := hlow
      exact ih _ (h ▸ hlt) b hb rfl
    · exact ⟨a, ha, fun b hb => Nat.le_of_not_lt fun hlt => hlow ⟨b, hb, hlt⟩⟩

/-- With `⊆` on spaces and `free` this gives the minimal trap spaces, with `⊇` and `n - free` the maximal
    candidates. -/
theorem exists_minimal_below {α : Type} (r : α → α → Prop) (hrefl : ∀ a, r a a)
    (htrans : ∀ {a b c}, r a b → r b c → r a c) (μ : α → Nat) (hμ : ∀ {a b}, r a b → a ≠ b → μ a < μ b)
    (S : α → Prop) (a : α) (ha : S a) : ∃ m, S m ∧ r m a ∧ ∀ b, S b → r b m → b = m := by
  -- the lowest member below `a`: a member strictly below it would be lower
  obtain ⟨m, ⟨hm, hma⟩, hlow⟩ := exists_lowest μ (fun x => S x ∧ r x a) a ⟨ha, hrefl a⟩
  exact ⟨m, hm, hma, fun b hb hbm => Classical.byContradiction fun hne =>
    Nat.not_lt.2 (hlow b ⟨hb, htrans hbm hma⟩) (hμ hbm hne)⟩

/-- the `cover` ingredient of the partition theorem -/
theorem exists_max_above (p : Space n) (srcs : List (Fin n)) (T : Space n) (hT : motifCand N p srcs T = true) :
    ∃ m ∈ maxTrapsIn N p srcs, T.le m := by
  obtain ⟨m, hm, hle, hmax⟩ := exists_minimal_below (fun a b : Space n => b.le a) Space.le_refl
    (fun h1 h2 => Space.le_trans h2 h1) (fun a => n - free a)
    (fun {a b} h hne => by have := free_lt_of_le_ne h (Ne.symm hne); have := free_le a; omega)
    (motifCand N p srcs · = true) T hT
  exact ⟨m, (mem_maxTrapsIn N p srcs m).2 ⟨hm, hmax⟩, hle⟩

end Balm
