/-!
# Diagrams with shortcuts: the weak invariant (C03, C05, C14)

A diagram built with skip nodes, source-variable valuations or attached sub-diagrams no longer has the stable
motifs of a node as its successors.  What every such rule keeps is `InvWeak`: the successors of an expanded
node are node spaces strictly inside it that together contain every minimal trap space inside it.  Without
stubs it makes the leaves the minimal trap spaces and, for a network without motif-avoidant attractors, each
attractor whose minimal trap space is a node (all are after `skip_remaining`; the invariant alone does not even
make the root a node) own for exactly that leaf.
-/
namespace Balm.Skip

/-- order facts about trap spaces needed for skip completion -/
structure WEnv (σ : Type) where
  le : σ → σ → Bool
  le_refl : ∀ a, le a a = true
  le_trans : ∀ {a b c}, le a b = true → le b c = true → le a c = true
  le_antisymm : ∀ {a b}, le a b = true → le b a = true → a = b
  good : σ → Prop                           -- percolation-closed trap space
  isMin : σ → Prop                          -- minimal trap space of the network
  min_good : ∀ m, isMin m → good m
  min_minimal : ∀ m q, isMin m → good q → le q m = true → q = m
  has_min : ∀ p, good p → ∃ m, isMin m ∧ le m p = true
  root : σ
  mins : List σ                             -- answer of the `min` solver at the root
  mins_spec : ∀ m, m ∈ mins ↔ isMin m ∧ le m root = true

variable {σ : Type} [DecidableEq σ]

/-- space-level view of a diagram (ids forgotten; C03/C05 do not mention them) -/
structure WSD (σ : Type) where
  nodes : List σ
  exp : σ → Bool
  edges : List (σ × σ)

structure InvWeak (E : WEnv σ) (s : WSD σ) : Prop where
  good : ∀ p ∈ s.nodes, E.good p
  below : ∀ p ∈ s.nodes, E.le p E.root = true
  stub : ∀ p, s.exp p = false → ∀ e ∈ s.edges, e.1 ≠ p
  edge : ∀ e ∈ s.edges, e.1 ∈ s.nodes ∧ e.2 ∈ s.nodes ∧ E.le e.2 e.1 = true ∧ e.2 ≠ e.1
  cov : ∀ p ∈ s.nodes, s.exp p = true → ∀ m, E.isMin m → E.le m p = true →
          m = p ∨ ∃ c, (p, c) ∈ s.edges ∧ E.le m c = true

theorem mem_append_new (l cs : List σ) (x : σ) : x ∈ l ++ cs.filter (fun c => c ∉ l) ↔ x ∈ l ∨ x ∈ cs := by
  by_cases hx : x ∈ l <;> simp [hx]

def newNodes (E : WEnv σ) (s : WSD σ) : List σ := s.nodes ++ E.mins.filter (fun m => m ∉ s.nodes)
def exp1 (E : WEnv σ) (s : WSD σ) (p : σ) : Bool := s.exp p || decide (p ∈ E.mins)
def stubs (E : WEnv σ) (s : WSD σ) : List σ := (newNodes E s).filter (fun p => exp1 E s p = false)
def skipEdges (E : WEnv σ) (s : WSD σ) : List (σ × σ) :=
  (stubs E s).flatMap (fun p => (E.mins.filter (fun m => E.le m p)).map (fun m => (p, m)))

/-- `skip_remaining` -/
def skipRemaining (E : WEnv σ) (s : WSD σ) : WSD σ :=
  { nodes := newNodes E s, exp := fun _ => true, edges := s.edges ++ skipEdges E s }

theorem mem_skipEdges (E : WEnv σ) (s : WSD σ) (e : σ × σ) :
    e ∈ skipEdges E s ↔ e.1 ∈ stubs E s ∧ e.2 ∈ E.mins ∧ E.le e.2 e.1 = true := by
  simp only [skipEdges, List.mem_flatMap, List.mem_map, List.mem_filter]
  constructor
  · rintro ⟨p, hp, m, ⟨hm, hle⟩, rfl⟩; exact ⟨hp, hm, hle⟩
  · rintro ⟨h1, h2, h3⟩; exact ⟨e.1, h1, e.2, ⟨h2, h3⟩, rfl⟩

theorem mem_stubs (E : WEnv σ) (s : WSD σ) (p : σ) :
    p ∈ stubs E s ↔ p ∈ s.nodes ∧ s.exp p = false ∧ p ∉ E.mins := by
  simp only [stubs, newNodes, exp1, List.mem_filter, List.mem_append, Bool.or_eq_false_iff,
    decide_eq_false_iff_not, decide_eq_true_eq]
  constructor
  · rintro ⟨h | ⟨h, _⟩, h2, h3⟩
    · exact ⟨h, h2, h3⟩
    · exact absurd h h3
  · rintro ⟨h1, h2, h3⟩; exact ⟨Or.inl h1, h2, h3⟩

theorem min_no_out (E : WEnv σ) (s : WSD σ) (h : InvWeak E s) (m : σ) (hm : E.isMin m) :
    ∀ e ∈ s.edges, e.1 ≠ m := by
  intro e he heq
  obtain ⟨_, h2, h3, h4⟩ := h.edge e he
  rw [heq] at h3 h4
  exact h4 (E.min_minimal m e.2 hm (h.good e.2 h2) h3)

theorem leaf_iff_min (E : WEnv σ) (s : WSD σ) (h : InvWeak E s) (p : σ) (hp : p ∈ s.nodes) (hexp : s.exp p = true) :
    (∀ e ∈ s.edges, e.1 ≠ p) ↔ E.isMin p := by
  refine ⟨fun hleaf => ?_, min_no_out E s h p⟩
  obtain ⟨m, hm, hle⟩ := E.has_min p (h.good p hp)
  rcases h.cov p hp hexp m hm hle with h1 | ⟨c, hc, _⟩
  · exact h1 ▸ hm
  · exact absurd rfl (hleaf (p, c) hc)

/-- **C03 core.** After `skip_remaining` on any diagram satisfying the weak
    invariant (`skipRemaining` flags every node expanded): the invariant still holds, and the nodes without successors
    are exactly the minimal trap spaces of the network (all of them are nodes). -/
theorem skip_completion (E : WEnv σ) (s : WSD σ) (h : InvWeak E s) :
    InvWeak E (skipRemaining E s) ∧
    (∀ m, E.isMin m → E.le m E.root = true → m ∈ (skipRemaining E s).nodes) ∧
    (∀ p ∈ (skipRemaining E s).nodes,
        (∀ e ∈ (skipRemaining E s).edges, e.1 ≠ p) ↔ E.isMin p) := by
  have hnodes : ∀ p, p ∈ newNodes E s ↔ p ∈ s.nodes ∨ p ∈ E.mins := mem_append_new _ _
  have hinv : InvWeak E (skipRemaining E s) := by
    refine ⟨fun p hp => ?_, fun p hp => ?_, fun p hp => Bool.noConfusion hp, fun e he => ?_, fun p hp _ m hm hle => ?_⟩
    · exact ((hnodes p).1 hp).elim (h.good p) fun h1 => E.min_good p ((E.mins_spec p).1 h1).1
    · exact ((hnodes p).1 hp).elim (h.below p) fun h1 => ((E.mins_spec p).1 h1).2
    · rcases List.mem_append.1 he with he | he
      · obtain ⟨a, b, c, d⟩ := h.edge e he
        exact ⟨(hnodes _).2 (.inl a), (hnodes _).2 (.inl b), c, d⟩
      · obtain ⟨h1, h2, h3⟩ := (mem_skipEdges E s e).1 he
        obtain ⟨h1a, _, h1c⟩ := (mem_stubs E s e.1).1 h1
        exact ⟨(hnodes _).2 (.inl h1a), (hnodes _).2 (.inr h2), h3, fun heq => h1c (heq ▸ h2)⟩
    · by_cases hpm : p ∈ E.mins
      · exact .inl (E.min_minimal p m ((E.mins_spec p).1 hpm).1 (E.min_good m hm) hle)
      · have hps : p ∈ s.nodes := ((hnodes p).1 hp).resolve_right hpm
        cases hexp : s.exp p with
        | true =>
          exact (h.cov p hps hexp m hm hle).imp_right fun ⟨c, hc, hmc⟩ => ⟨c, List.mem_append_left _ hc, hmc⟩
        | false =>
          -- a stub gets an edge to every minimal trap space inside it, so to `m` itself
          have hmm : m ∈ E.mins := (E.mins_spec m).2 ⟨hm, E.le_trans hle (h.below p hps)⟩
          exact .inr ⟨m, List.mem_append_right _ ((mem_skipEdges E s (p, m)).2
            ⟨(mem_stubs E s p).2 ⟨hps, hexp, hpm⟩, hmm, hle⟩), E.le_refl m⟩
  exact ⟨hinv, fun m hm hle => (hnodes m).2 (Or.inr ((E.mins_spec m).2 ⟨hm, hle⟩)),
    fun p hp => leaf_iff_min E _ hinv p hp rfl⟩

def attach (s : WSD σ) (p : σ) (cs : List σ) : WSD σ :=
  { nodes := s.nodes ++ cs.filter (fun c => c ∉ s.nodes),
    exp := fun q => if q = p then true else s.exp q,
    edges := s.edges ++ cs.map (fun c => (p, c)) }

/-- **C03/C14 core.** Let `p` be an unexpanded node and `cs` percolation-closed trap
    spaces strictly inside `p` that together contain every minimal trap space of `p` (or `p` is itself
    minimal and `cs` is empty).  Giving `p` the successors `cs` keeps the weak invariant - whatever
    rule produced `cs`: source-variable valuations, the minimal trap spaces (skip nodes), or the
    nodes of an attached sub-diagram. -/
theorem attach_weak (E : WEnv σ) (s : WSD σ) (h : InvWeak E s) (p : σ) (cs : List σ)
    (hp : p ∈ s.nodes) (hstub : s.exp p = false)
    (hgood : ∀ c ∈ cs, E.good c) (hlt : ∀ c ∈ cs, E.le c p = true ∧ c ≠ p)
    (hcov : ∀ m, E.isMin m → E.le m p = true → m = p ∨ ∃ c ∈ cs, E.le m c = true)
    (hnew : ∀ c ∈ cs, c ∉ s.nodes → s.exp c = false) :
    InvWeak E (attach s p cs) := by
  have hnodes : ∀ q, q ∈ (attach s p cs).nodes ↔ q ∈ s.nodes ∨ q ∈ cs := mem_append_new _ _
  have hexp : ∀ q, q ≠ p → (attach s p cs).exp q = s.exp q := fun q hq => if_neg hq
  refine ⟨fun q hq => ?_, fun q hq => ?_, fun q hq e he => ?_, fun e he => ?_, fun q hq hq' m hm hle => ?_⟩
  · exact ((hnodes q).1 hq).elim (h.good q) (hgood q)
  · exact ((hnodes q).1 hq).elim (h.below q) fun h1 => E.le_trans (hlt q h1).1 (h.below p hp)
  · have hqp : q ≠ p := fun e1 => by subst e1; simp [attach] at hq
    rcases List.mem_append.1 he with he | he
    · exact h.stub q (hexp q hqp ▸ hq) e he
    · obtain ⟨c, _, rfl⟩ := List.mem_map.1 he
      exact Ne.symm hqp
  · rcases List.mem_append.1 he with he | he
    · obtain ⟨a, b, c, d⟩ := h.edge e he
      exact ⟨(hnodes _).2 (.inl a), (hnodes _).2 (.inl b), c, d⟩
    · obtain ⟨c, hc, rfl⟩ := List.mem_map.1 he
      exact ⟨(hnodes _).2 (.inl hp), (hnodes _).2 (.inr hc), hlt c hc⟩
  · by_cases hqp : q = p
    · subst hqp
      exact (hcov m hm hle).imp_right fun ⟨c, hc, hmc⟩ =>
        ⟨c, List.mem_append_right _ (List.mem_map.2 ⟨c, hc, rfl⟩), hmc⟩
    · rw [hexp q hqp] at hq'
      -- a successor that is a new node is created unexpanded, so `q` is an old node
      have hqs : q ∈ s.nodes := Classical.byContradiction fun hq2 => by
        rw [hnew q (((hnodes q).1 hq).resolve_left hq2) hq2] at hq'; cases hq'
      exact (h.cov q hqs hq' m hm hle).imp_right fun ⟨c, hc, hmc⟩ => ⟨c, List.mem_append_left _ hc, hmc⟩

/-- attractors seen through the spaces that contain them, for the skip-node argument -/
structure WAtt (E : WEnv σ) where
  In : σ → Prop
  mono : ∀ {p q}, In p → E.le p q = true → In q
  /-- in a network without motif-avoidant attractors every attractor lies in a minimal trap space -/
  inMin : σ
  inMin_min : E.isMin inMin
  inMin_in : In inMin
  /-- a trap space that contains the attractor contains that minimal trap space
      (the intersection with it is a trap space containing the attractor, hence the whole of it) -/
  below : ∀ p, E.good p → In p → E.le inMin p = true

/-- own attractor of a node (space-level view) -/
def OwnW (E : WEnv σ) (s : WSD σ) (a : WAtt E) (p : σ) : Prop :=
  p ∈ s.nodes ∧ a.In p ∧ ∀ c, (p, c) ∈ s.edges → ¬ a.In c

/-- **C05 core.** In a diagram satisfying the weak invariant with no unexpanded node – in particular
    after `skip_remaining`, with any number of skip nodes – an attractor of a network without
    motif-avoidant attractors is own for exactly one node: the leaf of its minimal trap space. Inner
    nodes and skip nodes own nothing, so whatever subset of their own attractors they report (skip
    nodes may exclude regions), every attractor is reported exactly once as soon as leaves report
    exactly their own. -/
theorem own_iff_leaf (E : WEnv σ) (s : WSD σ) (h : InvWeak E s)
    (hall : ∀ p ∈ s.nodes, s.exp p = true) (a : WAtt E) (hnode : a.inMin ∈ s.nodes) (p : σ) :
    OwnW E s a p ↔ p = a.inMin := by
  constructor
  · rintro ⟨hp, hin, hno⟩
    have hle := a.below p (h.good p hp) hin
    rcases h.cov p hp (hall p hp) a.inMin a.inMin_min hle with heq | ⟨c, hc, hmc⟩
    · exact heq.symm
    · exact absurd (a.mono a.inMin_in hmc) (hno c hc)
  · rintro rfl
    refine ⟨hnode, a.inMin_in, ?_⟩
    intro c hc _
    exact min_no_out E s h a.inMin a.inMin_min (a.inMin, c) hc rfl

end Balm.Skip
