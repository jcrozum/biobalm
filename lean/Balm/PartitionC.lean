import Balm.Concrete
import Balm.Partition
/-!
# The partition theorems for a concrete network (C01, C02, C03)

`penv N srcs` is the environment of `Balm.Partition` for the network `N`: spaces under inclusion, the
percolation-closed trap spaces as node spaces, the percolated stable motifs as successors
(`exists_motif_of_mem`).  An attractor `A` enters as `attOf`, whose least node space is the percolation of
`meetAbove A`, the least trap space around `A` (`meetAbove_least`, `least_spec`).
-/
namespace Balm

variable {n : Nat} (N : Net n)

/-- a space is *relevant* for the root rule if it fixes every identity input -/
def FixesAll (srcs : List (Fin n)) (T : Space n) : Prop := ∀ i ∈ srcs, (T[i]).isSome = true

section
open FinIdx

theorem fixesAll_of_le {srcs : List (Fin n)} {p q : Space n} (h : p.le q) (hq : FixesAll srcs q) :
    FixesAll srcs p := by
  intro i hi
  obtain ⟨b, hb⟩ := Option.isSome_iff_exists.1 (hq i hi)
  rw [h i b hb]; rfl

theorem exists_motif_of_mem {root p c : Space n} {srcs : List (Fin n)}
    (h : c ∈ ((refEnv N root srcs).maxT p).map (perc N)) :
    ∃ m, perc N m = c ∧ TrapSpace N m ∧ m.le p ∧ m ≠ p ∧ (p = root → FixesAll srcs m) := by
  obtain ⟨m, hm, hc⟩ := List.mem_map.1 h
  rw [refEnv_maxT] at hm
  obtain ⟨ht, hle, hne, hfix⟩ := (motifCand_iff N p _ m).1 ((mem_maxTrapsIn N p _ m).1 hm).1
  exact ⟨m, hc, ht, hle, hne, fun hpr i hi => hfix i (if_pos hpr ▸ hi)⟩

end

def penv (srcs : List (Fin n)) : Partition.PEnv (Space n) where
  le := Space.le
  le_refl' := Space.le_refl
  le_trans := Space.le_trans
  le_antisymm := Space.le_antisymm
  good := GoodSpace N
  rel := FixesAll srcs
  root := perc N (Vector.replicate n none)
  root_good := ⟨percIter_trap N (constOnOf N) n _ (top_trap N), percolate_idem N (constOnOf N) _⟩
  children := fun p => ((refEnv N (perc N (Vector.replicate n none)) srcs).maxT p).map (perc N)
  child_le := by
    intro p c _ hc
    obtain ⟨m, rfl, _, hmp, hne, _⟩ := exists_motif_of_mem N hc
    exact ⟨Space.le_trans (perc_le N m) hmp, fun heq => hne (Space.le_antisymm hmp (heq ▸ perc_le N m))⟩
  child_good := by
    intro p c _ hc
    obtain ⟨m, rfl, ht, _⟩ := exists_motif_of_mem N hc
    exact goodSpace_perc N ht
  cover := by
    intro p T _ hT hrel hle hne
    -- `T` is a candidate at `p`, so it lies below a maximal one, `m`; `perc` is monotone and fixes `T`
    have hcand := (motifCand_iff N p (if p = perc N (Vector.replicate n none) then srcs else []) T).2
      ⟨hT.1, hle, hne, fun i hi => hrel i (by split at hi; exact hi; cases hi)⟩
    obtain ⟨m, hm, hTm⟩ := exists_max_above N p _ T hcand
    exact ⟨perc N m, List.mem_map.2 ⟨m, refEnv_maxT N _ srcs p ▸ hm, rfl⟩, hT.2 ▸ perc_mono N hT.1 hTm⟩
  wf := by
    apply Subrelation.wf (r := InvImage (· < ·) (free (n := n)))
    · intro a b h; exact free_lt_of_le_ne h.1 h.2
    · exact InvImage.wf _ Nat.lt_wfRel.wf

theorem children_fix_srcs (srcs : List (Fin n)) :
    ∀ p c, Partition.Node (penv N srcs) p → c ∈ (penv N srcs).children p → FixesAll srcs c := by
  -- the motif of a successor of the root fixes the inputs; below the root they stay fixed; percolation only adds values
  have step : ∀ p c, p = (penv N srcs).root ∨ FixesAll srcs p → c ∈ (penv N srcs).children p → FixesAll srcs c := by
    intro p c hp hc
    obtain ⟨m, rfl, _, hmp, _, hfix⟩ := exists_motif_of_mem N hc
    exact fixesAll_of_le (perc_le N m) (hp.elim hfix (fixesAll_of_le hmp))
  intro p c hp
  refine step p c ?_
  induction hp with
  | root => exact Or.inl rfl
  | child _ hc' ih => exact Or.inr (step _ _ ih hc')

/-- **C02/C03 for the concrete model.** For every network: the nodes of the fully expanded diagram
    that have no successor are exactly the minimal trap spaces (percolation-closed, fixing the
    inputs, nothing such strictly inside). -/
theorem concrete_leaf_iff_minimal (srcs : List (Fin n))
    (hrootrel : (penv N srcs).children (penv N srcs).root = [] → FixesAll srcs (penv N srcs).root)
    (T : Space n) :
    (Partition.Node (penv N srcs) T ∧ (penv N srcs).children T = []) ↔
      Partition.IsMinTrap (penv N srcs) T :=
  Partition.leaf_iff_minimal (penv N srcs) (children_fix_srcs N srcs) hrootrel T

def above (A : List (State n)) : List (Space n) :=
  (trapSpaces N).filter fun T => A.all fun s => T.memB s

/-- the meet of the trap spaces containing `A`: on a variable that two of them fix they agree (on its value in `A`,
    if `A ≠ []`), so the first value found will do -/
def meetAbove (A : List (State n)) : Space n :=
  Vector.ofFn fun i => (above N A).findSome? fun T => T[i]

section
open FinIdx

theorem mem_above (A : List (State n)) (T : Space n) :
    T ∈ above N A ↔ TrapSpace N T ∧ ∀ s ∈ A, T.Mem s := by
  simp [above, mem_trapSpaces, List.all_eq_true, Space.memB_iff]

theorem meetAbove_eq_some {A : List (State n)} (hA : A ≠ []) (i : Fin n) (b : Bool) :
    (meetAbove N A)[i] = some b ↔ ∃ T ∈ above N A, T[i] = some b := by
  obtain ⟨s, hs⟩ := List.exists_mem_of_ne_nil A hA
  rw [meetAbove, ofFn_get]
  refine ⟨List.exists_of_findSome?_eq_some, fun ⟨T, hT, hb⟩ => ?_⟩
  cases h : (above N A).findSome? fun T => T[i] with
  | none => rw [List.findSome?_eq_none_iff.1 h T hT] at hb; cases hb
  | some b' =>
    obtain ⟨T', hT', hb'⟩ := List.exists_of_findSome?_eq_some h
    rw [← ((mem_above N A T).1 hT).2 s hs i b hb, ← ((mem_above N A T').1 hT').2 s hs i b' hb']

theorem meetAbove_least {A : List (State n)} (hA : A ≠ []) :
    meetAbove N A ∈ above N A ∧ ∀ T ∈ above N A, (meetAbove N A).le T := by
  have hle : ∀ T ∈ above N A, (meetAbove N A).le T :=
    fun T hT i b h => (meetAbove_eq_some N hA i b).2 ⟨T, hT, h⟩
  refine ⟨(mem_above N A _).2 ⟨(trapSpace_iff N _).2 fun i b hi s hs => ?_, fun s hs i b hi => ?_⟩, hle⟩ <;>
    obtain ⟨T, hT, hb⟩ := (meetAbove_eq_some N hA i b).1 hi
  · exact (trapSpace_iff N T).1 ((mem_above N A T).1 hT).1 i b hb s (.of_ext (hle T hT) hs)
  · exact ((mem_above N A T).1 hT).2 s hs i b hb

end

/-- the `least_*` fields of `attOf` -/
theorem least_spec (A : List (State n)) (hA : A ≠ [])
    (hattr : IsAttr N (fun s => s ∈ A)) :
    GoodSpace N (perc N (meetAbove N A)) ∧
    (∀ s ∈ A, (perc N (meetAbove N A)).Mem s) ∧
    ∀ p, GoodSpace N p → (∀ s ∈ A, p.Mem s) → (perc N (meetAbove N A)).le p := by
  obtain ⟨hmem, hleast⟩ := meetAbove_least N hA
  obtain ⟨htrap, hin⟩ := (mem_above N A _).1 hmem
  refine ⟨goodSpace_perc N htrap, attr_in_percIter N (constOnOf N) n _ htrap _ hattr hin, fun p hp hin => ?_⟩
  have := perc_mono N htrap (hleast p ((mem_above N A p).2 ⟨hp.1, hin⟩))
  rwa [hp.2] at this

def attOf (srcs : List (Fin n)) (A : List (State n)) (hA : A ≠ [])
    (hattr : IsAttr N (fun s => s ∈ A))
    (hsrc : FixesAll srcs (perc N (meetAbove N A))) : Partition.Att (penv N srcs) where
  In := fun p => ∀ s ∈ A, p.Mem s
  mono := fun hin hle s hs => Space.Mem.of_ext hle (hin s hs)
  least := perc N (meetAbove N A)
  least_good := (least_spec N A hA hattr).1
  least_rel := hsrc
  least_in := (least_spec N A hA hattr).2.1
  least_le := fun p hp hin => (least_spec N A hA hattr).2.2 p hp hin
  in_root := attr_in_percIter N (constOnOf N) n _ (top_trap N) _ hattr
    (fun s _ => Space.mem_top s)

/-- **C01 partition theorem for the concrete model.** For every network and every attractor `A`, in
    the fully expanded diagram there is exactly one node for which `A` is *own* (inside the node's
    space, inside no successor's space): the node of `perc (meetAbove A)`. Together with the per-node
    exactness of the candidate filter (`Filter.filt_spec`) this is "every attractor is represented by exactly one
    seed in the whole diagram". -/
theorem concrete_exists_unique_own (srcs : List (Fin n)) (A : List (State n)) (hA : A ≠ [])
    (hattr : IsAttr N (fun s => s ∈ A))
    (hsrc : FixesAll srcs (perc N (meetAbove N A))) :
    ∃ p, Partition.Own (penv N srcs) (attOf N srcs A hA hattr hsrc) p ∧
      ∀ q, Partition.Own (penv N srcs) (attOf N srcs A hA hattr hsrc) q → q = p :=
  Partition.exists_unique_own (penv N srcs) (attOf N srcs A hA hattr hsrc)

end Balm
