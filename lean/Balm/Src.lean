import Balm.PartitionC
/-!
# Identity inputs

A variable whose update function is the identity keeps its value along every path, so fixing it cuts a
trap space out of a trap space.  Hence the least trap space around an attractor fixes every input
(`least_fixes_inputs`, the hypothesis `hsrc` of the partition theorem) and so does every minimal trap
space (`min_fixes_input`, behind the source shortcut of block expansion).
-/
namespace Balm

variable {n : Nat} (N : Net n)

def IsInput (i : Fin n) : Prop := ∀ s : State n, N.f i s = s[i]

def single (i : Fin n) (b : Bool) : Space n := (Vector.replicate n none).set i (some b)

theorem input_const_along {i : Fin n} (hi : IsInput N i) {s t : State n} (h : Reach N s t) :
    t[i] = s[i] := by
  induction h with
  | refl => rfl
  | tail j _ ih =>
    rw [step_get]; split
    · subst_vars; rw [hi, ih]
    · exact ih

section
open FinIdx

theorem trap_fix_inputs {p q : Space n} (hp : TrapSpace N p) (hle : q.le p)
    (hin : ∀ (j : Fin n) (b : Bool), q[j] = some b → p[j] = some b ∨ ∀ s, p.Mem s → N.f j s = s[j]) :
    TrapSpace N q :=
  (trapSpace_iff N q).2 fun j b hj s hs => (hin j b hj).elim
    (fun h => (trapSpace_iff N p).1 hp j b h s (.of_ext hle hs))
    (fun h => (h s (.of_ext hle hs)).trans (hs j b hj))

theorem min_fixes_input {m : Space n} (hm : TrapSpace N m) (hmin : ∀ q, TrapSpace N q → q.le m → q = m)
    {i : Fin n} (hi : ∀ s, m.Mem s → N.f i s = s[i]) : (m[i]).isSome = true := by
  cases hmi : m[i] with
  | some b => rfl
  | none =>
    -- fixing `i` would cut a smaller trap space out of `m`
    have hle : Space.le (m.set i (some false)) m := Space.ext_set_self (.inl hmi)
    have heq := hmin _ (trap_fix_inputs N hm hle fun j b hj => by
      rw [set_get] at hj; split at hj
      · subst_vars; exact .inr hi
      · exact .inl hj) hle
    rw [← heq, set_get, if_pos rfl] at hmi; cases hmi

theorem single_get (i j : Fin n) (b : Bool) :
    (single i b)[j] = if j = i then some b else none := by
  rw [single, set_get]; simp

end

theorem single_trap {i : Fin n} (hi : IsInput N i) (b : Bool) : TrapSpace N (single i b) := by
  refine trap_fix_inputs N (top_trap N) (Space.le_top _) fun j c hj => .inr fun s _ => ?_
  rw [single_get] at hj
  split at hj
  · subst_vars; exact hi s
  · cases hj

theorem least_fixes_inputs (srcs : List (Fin n)) (hsrcs : ∀ i ∈ srcs, IsInput N i)
    (A : List (State n)) (hA : A ≠ []) (hattr : IsAttr N (fun s => s ∈ A)) :
    FixesAll srcs (perc N (meetAbove N A)) := by
  open FinIdx in
  intro i hi
  obtain ⟨s0, hs0⟩ := List.exists_mem_of_ne_nil A hA
  -- all states of `A` agree with `s0` on `i`, so the trap space `single i s0[i]` contains `A`
  have hab : single i s0[i] ∈ above N A := by
    refine (mem_above N A _).2 ⟨single_trap N (hsrcs i hi) _, fun s hs j c hj => ?_⟩
    rw [single_get] at hj
    split at hj
    · subst_vars; cases hj; exact input_const_along N (hsrcs j hi) ((hattr.2 s0 hs0 s).1 hs)
    · cases hj
  have hm := (meetAbove_least N hA).2 _ hab i s0[i] (by rw [single_get, if_pos rfl])
  rw [perc_le N (meetAbove N A) i _ hm]; rfl

end Balm
