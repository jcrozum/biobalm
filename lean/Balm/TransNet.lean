import Balm.Trans
import Balm.Expr
/-!
# Presentations of one network (C17): reordering / renaming and polarity

Two families of state bijections, each an isomorphism of the asynchronous transition systems, so that the image
of an attractor is an attractor: `permNet N π ρ`, the network with its variables listed in another order (`π` with
inverse `ρ`; renaming a variable changes nothing but the position it is sorted to), and `flipNet N m`, every
variable `i` with `m[i] = true` replaced by its negation.  `flipExprs` is the polarity change on the syntax, the
transformation the harness applies to the text of a network; `ofExprs_flipExprs` shows that it is `flipNet`.
-/
namespace Balm

open TSys

variable {n : Nat}

def permS (π : Fin n → Fin n) (s : State n) : State n := Vector.ofFn fun i => s[π i]

/-- variable `i` of the new network is variable `π i` of the old one -/
def permNet (N : Net n) (π ρ : Fin n → Fin n) : Net n where
  f := fun i s => N.f (π i) (permS ρ s)

section
open FinIdx

theorem permS_get (π : Fin n → Fin n) (s : State n) (i : Fin n) : (permS π s)[i] = s[π i] :=
  ofFn_get ..

theorem permS_permS (π ρ : Fin n → Fin n) (h : ∀ i, π (ρ i) = i) (s : State n) : permS ρ (permS π s) = s :=
  vec_ext fun i => by simp only [permS_get, h]

theorem permS_step (N : Net n) (π ρ : Fin n → Fin n) (h1 : ∀ i, π (ρ i) = i) (h2 : ∀ i, ρ (π i) = i)
    (s : State n) (j : Fin n) : permS π (step N s j) = step (permNet N π ρ) (permS π s) (ρ j) := by
  apply vec_ext
  intro i
  have hc : π i = j ↔ i = ρ j := ⟨fun e => by rw [← e, h2], fun e => by rw [e, h1]⟩
  rw [permS_get, step_get, step_get, permS_get]
  simp only [hc, permNet, permS_permS π ρ h1, h1]

end

/-- **C17.** Listing the variables in another order maps every attractor of a network
    onto an attractor of the reordered network. -/
theorem attr_perm (N : Net n) (π ρ : Fin n → Fin n) (h1 : ∀ i, π (ρ i) = i) (h2 : ∀ i, ρ (π i) = i)
    (X : State n → Prop) (hX : IsAttr N X) : IsAttr (permNet N π ρ) (fun t => X (permS ρ t)) :=
  (netIso (permS π) (permS ρ) (permS_permS π ρ h1) (permS_permS ρ π h2) ρ π h2
    (permS_step N π ρ h1 h2)).attr_net hX

def flipS (m : Vector Bool n) (s : State n) : State n := Vector.ofFn fun i => s[i] != m[i]

def flipNet (N : Net n) (m : Vector Bool n) : Net n where
  f := fun i s => N.f i (flipS m s) != m[i]

section
open FinIdx

theorem flipS_get (m : Vector Bool n) (s : State n) (i : Fin n) : (flipS m s)[i] = (s[i] != m[i]) :=
  ofFn_get ..

theorem flipS_flipS (m : Vector Bool n) (s : State n) : flipS m (flipS m s) = s :=
  vec_ext fun i => by rw [flipS_get, flipS_get, Bool.bne_assoc, bne_self_eq_false, Bool.bne_false]

theorem flipS_step (N : Net n) (m : Vector Bool n) (s : State n) (j : Fin n) :
    flipS m (step N s j) = step (flipNet N m) (flipS m s) j := by
  apply vec_ext
  intro i
  rw [flipS_get, step_get, step_get, flipS_get]
  split
  · subst i; simp only [flipNet, flipS_flipS]
  · rfl

end

/-- **C17.** Encoding variables by their negations maps every attractor of a network
    onto an attractor of the re-encoded network. -/
theorem attr_flip (N : Net n) (m : Vector Bool n) (X : State n → Prop) (hX : IsAttr N X) :
    IsAttr (flipNet N m) (fun t => X (flipS m t)) :=
  (netIso (flipS m) (flipS m) (flipS_flipS m) (flipS_flipS m) id id (fun _ => rfl)
    (flipS_step N m)).attr_net hX

namespace BExpr

def flipVars (m : Nat → Bool) : BExpr → BExpr
  | .const b => .const b
  | .var i => if m i then .not (.var i) else .var i
  | .not e => .not (flipVars m e)
  | .and a b => .and (flipVars m a) (flipVars m b)
  | .or a b => .or (flipVars m a) (flipVars m b)
  | .xor a b => .xor (flipVars m a) (flipVars m b)
  | .iff a b => .iff (flipVars m a) (flipVars m b)
  | .imp a b => .imp (flipVars m a) (flipVars m b)
  | .cond c t e => .cond (flipVars m c) (flipVars m t) (flipVars m e)

theorem eval_flipVars (m : Vector Bool n) (e : BExpr) (s : State n) :
    (flipVars (fun i => if h : i < n then m[i] else false) e).eval s = e.eval (flipS m s) := by
  induction e with
  | var i =>
    by_cases hi : i < n
    · have := flipS_get m s ⟨i, hi⟩
      cases hm : m[i] <;> simp_all [flipVars, eval]
    · simp [flipVars, eval, hi]
  | _ => simp only [flipVars, eval, *]

end BExpr

def flipExprs (es : Vector BExpr n) (m : Vector Bool n) : Vector BExpr n :=
  Vector.ofFn fun i =>
    let e := BExpr.flipVars (fun k => if h : k < n then m[k] else false) es[i]
    if m[i] then .not e else e

/-- **C17.** Rewriting the text of a network with negated variables yields
    exactly `flipNet` of its semantic network. -/
theorem ofExprs_flipExprs (es : Vector BExpr n) (m : Vector Bool n) :
    Net.ofExprs (flipExprs es m) = flipNet (Net.ofExprs es) m := by
  unfold Net.ofExprs flipNet
  congr
  funext i s
  open FinIdx in
  (rw [show (flipExprs es m)[i] = _ from ofFn_get ..]
   cases hm : m[i] <;> simp [BExpr.eval, BExpr.eval_flipVars])

end Balm
