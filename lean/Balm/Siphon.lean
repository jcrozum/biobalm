import Balm.Dynamics
namespace Balm

variable {n : Nat}

/-- a Petri-net transition of the implicant encoding: variable `v` moves to value `up`
    when the cube `c` (over the other variables) holds and `v` currently has value `!up` -/
structure Trans (n : Nat) where
  v : Fin n
  up : Bool
  c : Space n

/-- places are (variable, value): `(i, true)` is `b1_i`, `(i, false)` is `b0_i` -/
abbrev Place (n : Nat) := Fin n × Bool

def Trans.cubeSat (t : Trans n) (s : State n) : Prop :=
  ∀ (j : Fin n) (b : Bool), j ≠ t.v → t.c[j] = some b → s[j] = b

def Trans.enabled (t : Trans n) (s : State n) : Prop := s[t.v] = !t.up ∧ t.cubeSat s

/-- pre-places of a transition: the source place and the read places of the cube -/
def Trans.pre (t : Trans n) (q : Place n) : Prop :=
  q = (t.v, !t.up) ∨ (q.1 ≠ t.v ∧ t.c[q.1] = some q.2)

def Faithful (N : Net n) (ts : List (Trans n)) : Prop :=
  ∀ (s : State n) (v : Fin n) (up : Bool),
    (∃ t ∈ ts, t.v = v ∧ t.up = up ∧ t.enabled s) ↔ (s[v] = !up ∧ N.f v s = up)

/-- siphon condition as the ASP rules state it -/
def Siphon (ts : List (Trans n)) (S : Place n → Prop) : Prop :=
  ∀ t ∈ ts, S (t.v, t.up) → ∃ q, t.pre q ∧ S q

/-- the space denoted by a place set, with the *inverted* polarity of `_clingo_model_to_space`:
    `b1_i ∈ S` fixes `i` to 0, `b0_i ∈ S` fixes `i` to 1 -/
def Denotes (S : Place n → Prop) (p : Space n) : Prop :=
  ∀ (i : Fin n) (b : Bool), p[i] = some b ↔ S (i, !b)

section
open FinIdx

theorem Denotes.not_both {S : Place n → Prop} {p : Space n} (hD : Denotes S p) {i : Fin n} {b : Bool}
    (h1 : S (i, b)) (h2 : S (i, !b)) : False := by
  have h1 := (hD i (!b)).2 (by rwa [Bool.not_not])
  rw [(hD i b).2 h2] at h1
  cases b <;> cases h1

theorem siphon_of_trap (N : Net n) (ts : List (Trans n)) (hF : Faithful N ts)
    (S : Place n → Prop) (p : Space n) (hD : Denotes S p) (hp : TrapSpace N p) : Siphon ts S := by
  intro t ht hS
  -- `p` excludes the produced value: it fixes `t.v` to `!t.up`
  have hpv : p[t.v] = some (!t.up) := (hD t.v (!t.up)).2 (by rwa [Bool.not_not])
  apply Classical.byContradiction
  intro hno
  -- no read place is in `S`, so `p` is compatible with the cube: some state of `p` enables `t`
  obtain ⟨s, hsp, hsc⟩ := Space.exists_mem_inter p (t.c.set t.v none) (by
    intro j a b hpj hcj
    rw [set_get] at hcj
    split at hcj
    · cases hcj
    · next hj =>
      apply Classical.byContradiction; intro hab
      exact hno ⟨(j, b), Or.inr ⟨hj, hcj⟩, Bool.eq_not.2 (Ne.symm hab) ▸ (hD j a).1 hpj⟩)
  have hen : t.enabled s :=
    ⟨hsp _ _ hpv, fun j b hj hc => hsc j b (by rw [set_get, if_neg hj]; exact hc)⟩
  -- `t` fires in `s`, so `t.v` leaves `p`
  have hmove := (hF s t.v t.up).1 ⟨t, ht, rfl, rfl, hen⟩
  have hstay := (trapSpace_iff N p).1 hp t.v _ hpv s hsp
  rw [hmove.2] at hstay
  exact (Bool.eq_not_self _).1 hstay

theorem trap_of_siphon (N : Net n) (ts : List (Trans n)) (hF : Faithful N ts)
    (S : Place n → Prop) (p : Space n) (hD : Denotes S p) (hS : Siphon ts S) : TrapSpace N p := by
  rw [trapSpace_iff]
  intro j b hj s hs
  -- if `f j s ≠ b`, a transition producing `!b` is enabled in `s`
  apply Classical.byContradiction
  intro hne
  obtain ⟨t, ht, rfl, htup, hten⟩ :=
    (hF s j (!b)).2 ⟨by rw [Bool.not_not]; exact hs j b hj, Bool.eq_not.2 hne⟩
  have hprod : S (t.v, t.up) := htup ▸ (hD t.v b).1 hj
  obtain ⟨q, hq, hSq⟩ := hS t ht hprod
  rcases hq with rfl | ⟨hqv, hqc⟩
  · -- the source place in `S`: `p` would fix `j` to both values
    exact hD.not_both hprod hSq
  · -- a read place in `S` contradicts `s ∈ p`
    have := hs q.1 (!q.2) ((hD q.1 (!q.2)).2 (by rwa [Bool.not_not]))
    rw [hten.2 q.1 q.2 hqv hqc] at this
    exact (Bool.eq_not_self _).1 this

end

/-- **C09 core.** Conflict-free siphons of the implicant net are exactly the trap spaces
    (with the inverted polarity the code uses when it reads a model back). -/
theorem siphon_iff_trapspace (N : Net n) (ts : List (Trans n)) (hF : Faithful N ts)
    (S : Place n → Prop) (p : Space n) (hD : Denotes S p) : Siphon ts S ↔ TrapSpace N p :=
  ⟨trap_of_siphon N ts hF S p hD, siphon_of_trap N ts hF S p hD⟩

end Balm
