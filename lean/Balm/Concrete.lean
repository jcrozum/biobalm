import Balm.MaxT
import Balm.SDm
namespace Balm

variable {n : Nat} (N : Net n)

def perc (p : Space n) : Space n := percolate N (constOnOf N) p

/-- a node space: a percolation-closed trap space -/
def GoodSpace (p : Space n) : Prop := TrapSpace N p ∧ perc N p = p

theorem goodSpace_perc {m : Space n} (h : TrapSpace N m) : GoodSpace N (perc N m) :=
  ⟨percIter_trap N (constOnOf N) n m h, percolate_idem N (constOnOf N) m⟩

theorem goodSpace_perc_of_mem {p m : Space n} {srcs : List (Fin n)} (h : m ∈ maxTrapsIn N p srcs) :
    GoodSpace N (perc N m) :=
  goodSpace_perc N ((motifCand_iff N p srcs m).1 ((mem_maxTrapsIn N p srcs m).1 h).1).1

theorem perc_mono {p q : Space n} (hp : TrapSpace N p) (hle : p.le q) : (perc N p).le (perc N q) :=
  percolate_mono N (constOnOf N) hp hle

theorem perc_le (p : Space n) : (perc N p).le p := percIter_ext N (constOnOf N) n p

theorem perc_idem (p : Space n) : perc N (perc N p) = perc N p := percolate_idem N (constOnOf N) p

/-- the environment of the diagram state machine for a concrete network: identity inputs
    `srcs` are only imposed at the root space -/
def refEnv (root : Space n) (srcs : List (Fin n)) : SDm.Env (Space n) where
  perc := perc N
  maxT := fun p => if p = root then maxTrapsIn N p srcs else maxTrapsIn N p []
  good := GoodSpace N
  perc_good := by
    intro p _ m hm
    split at hm <;> exact goodSpace_perc_of_mem N hm

theorem refEnv_maxT (root : Space n) (srcs : List (Fin n)) (p : Space n) :
    (refEnv N root srcs).maxT p = maxTrapsIn N p (if p = root then srcs else []) := by
  simp only [refEnv]; split <;> rfl

/-- **C04 for the concrete, executable model.** For every network, every motif limit and every sequence of
    single-node expansions, the diagram built from the root `perc ⊤` satisfies the strict invariant: nodes are
    pairwise distinct percolation-closed trap spaces, unexpanded nodes have no successor, and every expanded node
    has exactly the percolations of its stable motifs as successors with exactly those motifs on the edges, in
    order. -/
theorem concrete_plain_history_inv (srcs : List (Fin n)) (limit : Nat) (ops : List Nat)
    (hroot : TrapSpace N (Vector.replicate n none)) :
    let root := perc N (Vector.replicate n none)
    SDm.Inv (refEnv N root srcs)
      (ops.foldl (fun s i => (SDm.expandOneLimited (refEnv N root srcs) limit s i).1) (SDm.init root)) none :=
  SDm.plain_history_inv _ limit _ (goodSpace_perc N hroot) ops

end Balm
