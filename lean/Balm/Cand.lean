namespace Balm.Cand

/-- the reduced-STG solver as the candidate computation sees it -/
structure Solver (Ret α : Type) where
  fp : Ret → List α                       -- the true (complete) fixed-point set for a retained map
  solve : Ret → Nat → List α              -- solver answer under a solution limit
  sub : ∀ R L, ∀ x ∈ solve R L, x ∈ fp R
  len_le : ∀ R L, (solve R L).length ≤ max L 1
  complete_of_lt : ∀ R L, (solve R L).length < max L 1 → ∀ x ∈ fp R, x ∈ solve R L

variable {Ret α Var : Type}

def Complete (S : Solver Ret α) (C : List α) (R : Ret) : Prop := ∀ x, x ∈ C ↔ x ∈ S.fp R

theorem complete_solve (S : Solver Ret α) (R : Ret) (L : Nat) (h : (S.solve R L).length < max L 1) :
    Complete S (S.solve R L) R :=
  fun x => ⟨S.sub R L x, S.complete_of_lt R L h x⟩

/-- state of the regeneration loop -/
structure St (Ret α : Type) where
  R : Ret
  C : List α
  deriving DecidableEq

/-- invariant of the regeneration loop (after the repairs F4a–F4c) -/
def Valid (S : Solver Ret α) (L : Nat) (st : St Ret α) : Prop :=
  Complete S st.C st.R ∧ st.C.length < max L 1

/-- one iteration of the *repaired* regeneration loop for variable `v`
    (`set R v b` extends the retained map). `none` = the resource-limit error. -/
def regenStep (S : Solver Ret α) (set : Ret → Var → Bool → Ret) (L : Nat)
    (st : St Ret α) (v : Var) : Option (St Ret α) :=
  let R0 := set st.R v false
  let Z := S.solve R0 L
  if Z.length ≤ st.C.length then some ⟨R0, Z⟩
  else
    let R1 := set st.R v true
    let O := S.solve R1 Z.length
    if max L 1 ≤ Z.length ∧ max L 1 ≤ O.length then none
    else if O.length ≤ st.C.length then some ⟨R1, O⟩
    else if O.length < Z.length then some ⟨R1, O⟩
    else some ⟨R0, Z⟩                      -- tie: keep `zero`, which is known to be complete (F4b)

theorem valid_of_short (S : Solver Ret α) {R : Ret} {l L : Nat}
    (h : (S.solve R l).length < max l 1) (hl : max l 1 ≤ max L 1) : Valid S L ⟨R, S.solve R l⟩ :=
  ⟨complete_solve S R l h, Nat.lt_of_lt_of_le h hl⟩

/-- `hC` holds for the unsolved starting pair `(∅, [])` and for every valid pair. -/
theorem regenStep_valid (S : Solver Ret α) (set : Ret → Var → Bool → Ret) (L : Nat)
    {st st' : St Ret α} {v : Var} (hC : st.C.length < max L 1)
    (h : regenStep S set L st v = some st') : Valid S L st' := by
  have hZ := S.len_le (set st.R v false) L
  have hO := S.len_le (set st.R v true) (S.solve (set st.R v false) L).length
  unfold regenStep at h
  -- `zero` is kept only when shorter than `max L 1` (on a tie because no error was raised, F4b), `one`
  -- only when shorter than `zero`, its limit: `valid_of_short` in each branch, by arithmetic on `hZ`, `hO`
  grind [valid_of_short]

/-- the whole loop over the NFVS -/
def regen (S : Solver Ret α) (set : Ret → Var → Bool → Ret) (L : Nat) :
    List Var → St Ret α → Option (St Ret α)
  | [], st => some st
  | v :: vs, st => match regenStep S set L st v with
    | none => none
    | some st' => regen S set L vs st'

theorem regen_valid (S : Solver Ret α) (set : Ret → Var → Bool → Ret) (L : Nat) (vs : List Var)
    (st st' : St Ret α) (hv : Valid S L st) (h : regen S set L vs st = some st') : Valid S L st' := by
  fun_induction regen S set L vs st with
  | case1 => cases h; exact hv
  | case2 => cases h
  | case3 v vs st st1 hstep ih => exact ih (regenStep_valid S set L hv.2 hstep) h

/-- the repaired top level of the regeneration branch: with an empty NFVS the empty retained map is
    solved once (F4c); limit comparisons use `max L 1` and `≥` (F4a) -/
def regenTop (S : Solver Ret α) (set : Ret → Var → Bool → Ret) (L : Nat) (empty : Ret)
    (U : List Var) : Option (List α) :=
  match U with
  | [] => let C := S.solve empty L
          if max L 1 ≤ C.length then none else some C
  | _ => (regen S set L U ⟨empty, []⟩).map (·.C)

/-- **C08 core.** Whatever the limit value (0 included), the NFVS (empty included) and the solver's
    enumeration order, the regeneration branch either raises the limit error or returns the
    *complete* fixed-point set of some retained map – which covers every own attractor by E6. -/
theorem regenTop_complete (S : Solver Ret α) (set : Ret → Var → Bool → Ret) (L : Nat) (empty : Ret)
    (U : List Var) (C : List α) (h : regenTop S set L empty U = some C) :
    ∃ R, Complete S C R := by
  unfold regenTop at h
  cases U with
  | nil =>
    simp only at h
    split at h
    · cases h
    · rename_i hlt
      cases h
      exact ⟨empty, complete_solve S empty L (by omega)⟩
  | cons v vs =>
    simp only [Option.map_eq_some_iff, regen] at h
    obtain ⟨st', hst, rfl⟩ := h
    split at hst
    · cases hst
    · rename_i st1 hstep
      have h1 := regenStep_valid S set L (Nat.lt_of_lt_of_le Nat.zero_lt_one (Nat.le_max_right ..)) hstep
      exact ⟨st'.R, (regen_valid S set L vs st1 st' h1 hst).1⟩

end Balm.Cand

-- reopened to leave the scope of `variable`: below, `Var` is auto-bound, so `regenStepOriginal` takes it in any sort;
-- under the `variable` it would be a `Type` and the definition another one
namespace Balm.Cand

/-- the canonical solver: enumerate the true set and truncate (`solution_limit=0` still yields one) -/
def Solver.ofFp {Ret α : Type} (fp : Ret → List α) : Solver Ret α where
  fp := fp
  solve := fun R L => (fp R).take (max L 1)
  sub := fun R L x hx => List.mem_of_mem_take hx
  len_le := fun R L => by simp [List.length_take]; omega
  complete_of_lt := fun R L h x hx => by
    have : (fp R).length ≤ max L 1 ∨ max L 1 < (fp R).length := by omega
    rcases this with h1 | h1
    · rw [List.take_of_length_le h1]; exact hx
    · simp [List.length_take] at h; omega

/-- the *unrepaired* last branch of the loop: on the path where `one` was solved with limit `|zero|`
    the code compares `|zero| < |one|` (never true) and otherwise keeps `one` -/
def regenStepOriginal (S : Solver Ret α) (set : Ret → Var → Bool → Ret) (L : Nat)
    (st : St Ret α) (v : Var) : Option (St Ret α) :=
  let R0 := set st.R v false
  let Z := S.solve R0 L
  if Z.length ≤ st.C.length then some ⟨R0, Z⟩
  else
    let R1 := set st.R v true
    let O := S.solve R1 Z.length
    if Z.length = L ∧ O.length = L then none
    else if O.length ≤ st.C.length then some ⟨R1, O⟩
    else if Z.length < O.length then some ⟨R0, Z⟩
    else some ⟨R1, O⟩

/-- **F4b as a checked witness.** A solver, a limit and a valid starting pair for which the original
    step keeps a truncated list: the retained map `true` has fixed points 3, 4, 5 but only 3, 4 are
    returned. (Retained maps are modelled by `Option Bool`: `none` = nothing chosen yet.) -/
theorem original_tie_unsound :
    let S : Solver (Option Bool) Nat := Solver.ofFp fun
      | none => [0] | some false => [1, 2] | some true => [3, 4, 5]
    let st : St (Option Bool) Nat := ⟨none, [0]⟩
    Valid S 10 st ∧
    ∃ st', regenStepOriginal S (fun _ (_ : Unit) b => some b) 10 st () = some st' ∧
      ¬ Complete S st'.C st'.R := by
  refine ⟨⟨fun x => by simp [Solver.ofFp], by decide⟩, ⟨some true, [3, 4]⟩, by decide, ?_⟩
  intro h
  have := (h 5).2 (by simp [Solver.ofFp])
  simp at this

/-- on the same input the repaired step keeps the complete `zero` -/
example :
    let S : Solver (Option Bool) Nat := Solver.ofFp fun
      | none => [0] | some false => [1, 2] | some true => [3, 4, 5]
    regenStep S (fun _ (_ : Unit) b => some b) 10 ⟨none, [0]⟩ () = some ⟨some false, [1, 2]⟩ := by
  decide

end Balm.Cand
