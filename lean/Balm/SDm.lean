namespace Balm.SDm

variable {σ : Type} [DecidableEq σ]

/-- what the diagram needs to know about the network -/
structure Env (σ : Type) where
  perc : σ → σ
  maxT : σ → List σ                -- stable motifs of a node space, already sorted by key
  good : σ → Prop                  -- percolation-closed trap space
  perc_good : ∀ p, good p → ∀ m ∈ maxT p, good (perc m)

/-- diagram state: node `i` has space `nodes[i]`; one edge triple per motif, in insertion order -/
structure SD (σ : Type) where
  nodes : List σ
  exp   : List Bool
  edges : List (Nat × Nat × σ)

def ensureNode (s : SD σ) (p : σ) : SD σ × Nat :=
  if p ∈ s.nodes then (s, s.nodes.idxOf p)
  else ({ s with nodes := s.nodes ++ [p], exp := s.exp ++ [false] }, s.nodes.length)

def addMotif (E : Env σ) (i : Nat) (s : SD σ) (m : σ) : SD σ :=
  let r := ensureNode s (E.perc m)
  { r.1 with edges := r.1.edges ++ [(i, r.2, m)] }

def expandOne (E : Env σ) (s : SD σ) (i : Nat) : SD σ :=
  match s.nodes[i]?, s.exp[i]? with
  | some p, some false =>
    let s' := (E.maxT p).foldl (addMotif E i) s
    { s' with exp := s'.exp.set i true }
  | _, _ => s

def out (s : SD σ) (i : Nat) : List (Nat × Nat × σ) := s.edges.filter (fun e => e.1 == i)

/-- what the out-edges of the expanded node `i` with stable motifs `ms` must be -/
def want (E : Env σ) (nodes : List σ) (i : Nat) (ms : List σ) : List (Nat × Nat × σ) :=
  ms.map (fun m => (i, nodes.idxOf (E.perc m), m))

/-- invariant; `part = some (i, done)` means node `i` is being expanded and the motifs in `done`
    have been processed so far -/
structure Inv (E : Env σ) (s : SD σ) (part : Option (Nat × List σ)) : Prop where
  len    : s.exp.length = s.nodes.length
  nodup  : s.nodes.Nodup
  good   : ∀ p ∈ s.nodes, E.good p
  src_lt : ∀ e ∈ s.edges, e.1 < s.nodes.length
  stub   : ∀ j, s.exp[j]? = some false → part.map (·.1) ≠ some j → out s j = []
  full   : ∀ j p, s.exp[j]? = some true → s.nodes[j]? = some p →
             out s j = want E s.nodes j (E.maxT p) ∧ ∀ m ∈ E.maxT p, E.perc m ∈ s.nodes
  cur    : ∀ i done, part = some (i, done) →
             s.exp[i]? = some false ∧ out s i = want E s.nodes i done ∧ ∀ m ∈ done, E.perc m ∈ s.nodes

def SD.ext (s : SD σ) (extra : List σ) (es : List (Nat × Nat × σ)) : SD σ :=
  { nodes := s.nodes ++ extra, exp := s.exp ++ extra.map fun _ => false, edges := s.edges ++ es }

def fresh (nodes : List σ) : List σ → List σ
  | [] => []
  | q :: qs => if q ∈ nodes then fresh nodes qs else q :: fresh (nodes ++ [q]) qs

@[simp] theorem mem_fresh {nodes qs : List σ} {q : σ} : q ∈ fresh nodes qs ↔ q ∈ qs ∧ q ∉ nodes := by
  fun_induction fresh nodes qs <;> grind

theorem fresh_nodup (nodes qs : List σ) : (fresh nodes qs).Nodup := by
  fun_induction fresh nodes qs <;> simp_all

theorem foldl_addMotif (E : Env σ) (i : Nat) (ms : List σ) (s : SD σ) :
    ms.foldl (addMotif E i) s =
      s.ext (fresh s.nodes (ms.map E.perc)) (want E (s.nodes ++ fresh s.nodes (ms.map E.perc)) i ms) := by
  induction ms generalizing s with
  | nil => simp [SD.ext, fresh, want]
  | cons m ms ih =>
    rw [List.foldl_cons, ih]
    by_cases hq : E.perc m ∈ s.nodes <;>
      simp [addMotif, ensureNode, SD.ext, fresh, want, hq, List.idxOf_append]

theorem expandOne_cases {P : SD σ → Prop} (E : Env σ) (s : SD σ) (i : Nat) (same : P s)
    (grown : ∀ p extra, s.nodes[i]? = some p → s.exp[i]? = some false → extra.Nodup →
      (∀ q, q ∈ extra ↔ (∃ m ∈ E.maxT p, E.perc m = q) ∧ q ∉ s.nodes) →
      P { nodes := s.nodes ++ extra, exp := (s.exp ++ extra.map fun _ => false).set i true,
          edges := s.edges ++ want E (s.nodes ++ extra) i (E.maxT p) }) :
    P (expandOne E s i) := by
  unfold expandOne
  split
  next p hp he => rw [foldl_addMotif]; exact grown p _ hp he (fresh_nodup _ _) fun _ => by rw [mem_fresh, List.mem_map]
  next => exact same

theorem want_stable (E : Env σ) (nodes extra : List σ) (i : Nat) (ms : List σ)
    (h : ∀ m ∈ ms, E.perc m ∈ nodes) :
    want E (nodes ++ extra) i ms = want E nodes i ms := by
  unfold want
  apply List.map_congr_left
  intro m hm
  simp [List.idxOf_append, h m hm]

theorem want_src (E : Env σ) {nodes : List σ} {i : Nat} {ms : List σ} {e : Nat × Nat × σ}
    (he : e ∈ want E nodes i ms) : e.1 = i := by
  obtain ⟨m, -, rfl⟩ := List.mem_map.1 he
  rfl

theorem out_append_want (E : Env σ) (s : SD σ) (ns nodes : List σ) (ex : List Bool) (i j : Nat) (ms : List σ) :
    out { nodes := ns, exp := ex, edges := s.edges ++ want E nodes i ms } j =
      if i = j then out s j ++ want E nodes i ms else out s j := by
  have hw : (want E nodes i ms).filter (·.1 == j) = if i = j then want E nodes i ms else [] := by
    split
    · exact List.filter_eq_self.2 fun e he => by rw [want_src E he]; simpa
    · exact List.filter_eq_nil_iff.2 fun e he => by rw [want_src E he]; simpa
  unfold out
  rw [List.filter_append, hw]
  split
  · rfl
  · exact List.append_nil _

theorem Inv.out_nil {E : Env σ} {s : SD σ} (h : Inv E s none) {j : Nat} (hj : s.exp[j]? ≠ some true) :
    out s j = [] := by
  match hb : s.exp[j]? with
  | some true => exact absurd hb hj
  | some false => exact h.stub j hb nofun
  | none =>
    have hl := h.len ▸ List.getElem?_eq_none_iff.1 hb
    exact List.filter_eq_nil_iff.2 fun e he heq => Nat.not_lt.2 hl (beq_iff_eq.1 heq ▸ h.src_lt e he)

theorem Inv.edge {E : Env σ} {s : SD σ} (h : Inv E s none) {j k : Nat} {m : σ} (he : (j, k, m) ∈ s.edges) :
    ∃ p, s.nodes[j]? = some p ∧ m ∈ E.maxT p ∧ s.nodes[k]? = some (E.perc m) := by
  have hp := List.getElem?_eq_getElem (h.src_lt _ he)
  have heo : (j, k, m) ∈ out s j := List.mem_filter.2 ⟨he, beq_self_eq_true j⟩
  obtain ⟨ho, hm⟩ := h.full j _ (Decidable.byContradiction fun hn => by cases h.out_nil hn ▸ heo) hp
  obtain ⟨m', hm', heq⟩ := List.mem_map.1 (ho ▸ heo)
  cases heq
  exact ⟨_, hp, hm', List.getElem?_eq_some_iff.2 ⟨List.idxOf_lt_length_of_mem (hm m hm'), List.getElem_idxOf _⟩⟩

theorem getElem?_flag {α : Type} {l : List Bool} {t : List α} {i j : Nat} (hi : i < l.length) :
    ((l ++ t.map fun _ => false).set i true)[j]? = some true ↔ j = i ∨ l[j]? = some true := by
  rw [List.getElem?_set, List.getElem?_append, List.length_append]
  by_cases hij : i = j
  · simp [← hij, Nat.lt_add_right _ hi]
  · rw [if_neg hij]; split
    · simp [Ne.symm hij]
    · simp [Ne.symm hij, List.getElem?_eq_none (Nat.le_of_not_lt ‹_›)]

/-- the central step of C02/C04/C15: expanding one node preserves the invariant -/
theorem expandOne_inv (E : Env σ) (s : SD σ) (i : Nat) (h : Inv E s none) :
    Inv E (expandOne E s i) none := by
  refine expandOne_cases (P := (Inv E · none)) E s i h fun p extra hp he hnd hex => ?_
  have hi : i < s.exp.length := (List.getElem?_eq_some_iff.1 he).1
  refine ⟨by simp [h.len], ?_, ?_, ?_, ?_, ?_, nofun⟩
  · exact List.nodup_append.2 ⟨h.nodup, hnd, fun a ha b hb hab => ((hex b).1 hb).2 (hab ▸ ha)⟩
  · intro q hq
    rcases List.mem_append.1 hq with hq | hq
    · exact h.good q hq
    · obtain ⟨⟨m, hm, rfl⟩, -⟩ := (hex q).1 hq
      exact E.perc_good p (h.good p (List.mem_of_getElem? hp)) m hm
  · intro e he
    rw [List.length_append]
    rcases List.mem_append.1 he with he | he
    · exact Nat.lt_add_right _ (h.src_lt e he)
    · rw [want_src E he]; exact Nat.lt_add_right _ (h.len ▸ hi)
  · intro j hj _
    have hn : ¬(j = i ∨ s.exp[j]? = some true) := fun hc => by cases hj.symm.trans ((getElem?_flag hi).2 hc)
    rw [out_append_want, if_neg fun e => hn (.inl e.symm)]
    exact h.out_nil fun e => hn (.inr e)
  · intro j p' hj hp'
    dsimp only at hj hp' ⊢
    rw [out_append_want]
    obtain rfl | hj := (getElem?_flag hi).1 hj
    · rw [List.getElem?_append_left (h.len ▸ hi), hp] at hp'
      cases hp'
      rw [if_pos rfl, h.out_nil (he ▸ nofun), List.nil_append]
      exact ⟨rfl, fun m hm => List.mem_append.2 <| (Decidable.em _).imp_right fun hn =>
        (hex _).2 ⟨⟨m, hm, rfl⟩, hn⟩⟩
    · rw [List.getElem?_append_left (h.len ▸ (List.getElem?_eq_some_iff.1 hj).1)] at hp'
      obtain ⟨ho, hm⟩ := h.full j p' hj hp'
      rw [if_neg (by rintro rfl; cases he.symm.trans hj), ho, want_stable E _ _ _ _ hm]
      exact ⟨rfl, fun m hmm => List.mem_append_left _ (hm m hmm)⟩

def init (root : σ) : SD σ := { nodes := [root], exp := [false], edges := [] }

theorem init_inv (E : Env σ) (root : σ) (hr : E.good root) : Inv E (init root) none :=
  ⟨rfl, List.nodup_cons.2 ⟨nofun, .nil⟩, fun _ hp => List.mem_singleton.1 hp ▸ hr, nofun, fun _ _ _ => rfl,
    fun j _ hj => (by cases j <;> cases hj), nofun⟩

/-- expansion with the stable-motif limit of `_expand_one_node`: the solver is asked for at most
    `max 1 limit` motifs and the error is raised when that many come back (so a shorter answer is
    complete); the error leaves the diagram untouched -/
def expandOneLimited (E : Env σ) (limit : Nat) (s : SD σ) (i : Nat) : SD σ × Bool :=
  match s.nodes[i]?, s.exp[i]? with
  | some p, some false =>
    if decide ((E.maxT p).length ≥ max 1 limit) then (s, false) else (expandOne E s i, true)
  | _, _ => (s, true)

theorem expandOneLimited_cases {P : SD σ → Prop} (E : Env σ) (limit : Nat) (s : SD σ) (i : Nat) (same : P s)
    (expanded : P (expandOne E s i)) : P (expandOneLimited E limit s i).1 := by
  unfold expandOneLimited
  split
  · split <;> assumption
  · exact same

theorem expandOneLimited_inv (E : Env σ) (limit : Nat) (s : SD σ) (i : Nat) (h : Inv E s none) :
    Inv E (expandOneLimited E limit s i).1 none :=
  expandOneLimited_cases (P := (Inv E · none)) E limit s i h (expandOne_inv E s i h)

/-- C04 core: after ANY sequence of single-node expansions (this is all that BFS, DFS,
    minimal-space, attractor-seed, target-directed and block-without-shortcut drivers do to
    the diagram), with any limit, the invariant holds -/
theorem plain_history_inv (E : Env σ) (limit : Nat) (root : σ) (hr : E.good root) (ops : List Nat) :
    Inv E (ops.foldl (fun s i => (expandOneLimited E limit s i).1) (init root)) none :=
  List.foldlRecOn ops _ (motive := (Inv E · none)) (init_inv E root hr) fun s h i _ =>
    expandOneLimited_inv E limit s i h

structure SD.Le (s s' : SD σ) : Prop where
  nodes : s.nodes <+: s'.nodes
  edges : s.edges <+: s'.edges
  exp : ∀ i : Nat, s.exp[i]? = some true → s'.exp[i]? = some true

section
omit [DecidableEq σ]

theorem SD.Le.refl (s : SD σ) : s.Le s := ⟨List.prefix_refl _, List.prefix_refl _, fun _ h => h⟩

theorem SD.Le.trans {a b c : SD σ} (h1 : a.Le b) (h2 : b.Le c) : a.Le c :=
  ⟨h1.nodes.trans h2.nodes, h1.edges.trans h2.edges, fun i h => h2.exp i (h1.exp i h)⟩

theorem SD.le_ext (s : SD σ) (extra : List σ) (es : List (Nat × Nat × σ)) : s.Le (s.ext extra es) :=
  ⟨List.prefix_append _ _, List.prefix_append _ _,
    fun _ h => (List.getElem?_append_left (List.getElem?_eq_some_iff.1 h).1).trans h⟩

theorem SD.le_setExp (s : SD σ) (i : Nat) : s.Le { s with exp := s.exp.set i true } :=
  ⟨List.prefix_refl _, List.prefix_refl _, fun j h => by rw [List.getElem?_set', h]; split <;> rfl⟩

end

theorem ensureNode_le (s : SD σ) (p : σ) : s.Le (ensureNode s p).1 := by
  unfold ensureNode
  split
  · exact .refl s
  · simpa [SD.ext] using s.le_ext [p] []

theorem expandOne_le (E : Env σ) (s : SD σ) (i : Nat) : s.Le (expandOne E s i) :=
  expandOne_cases E s i (.refl s) fun _ _ _ _ _ _ => (s.le_ext _ _).trans (SD.le_setExp _ i)

theorem expandOneLimited_le (E : Env σ) (limit : Nat) (s : SD σ) (i : Nat) : s.Le (expandOneLimited E limit s i).1 :=
  expandOneLimited_cases E limit s i (.refl s) (expandOne_le E s i)

theorem mem_ensureNode_nodes {s : SD σ} {p q : σ} (hq : q ∈ (ensureNode s p).1.nodes) : q ∈ s.nodes ∨ q = p := by
  unfold ensureNode at hq
  split at hq
  · exact .inl hq
  · simpa using hq

theorem mem_expandOne_nodes {E : Env σ} {s : SD σ} {i : Nat} {q : σ} (hq : q ∈ (expandOne E s i).nodes) :
    q ∈ s.nodes ∨ ∃ p m, s.nodes[i]? = some p ∧ m ∈ E.maxT p ∧ E.perc m = q := by
  refine expandOne_cases (P := fun s' => q ∈ s'.nodes → _) E s i .inl (fun p _ hp _ _ hex hq => ?_) hq
  refine (List.mem_append.1 hq).imp_right fun hq => ?_
  obtain ⟨⟨m, hm, rfl⟩, -⟩ := (hex q).1 hq
  exact ⟨p, m, hp, hm, rfl⟩

/-- non-vacuity: a two-space environment where the root has one motif -/
example : ∃ (E : Env Nat) (s : SD Nat), Inv E s none ∧ s.nodes = [0, 1] ∧ s.exp = [true, false] := by
  let E : Env Nat := { perc := id, maxT := fun p => if p = 0 then [1] else [], good := fun _ => True,
                       perc_good := fun _ _ _ _ => trivial }
  exact ⟨E, expandOne E (init 0) 0, expandOne_inv E _ 0 (init_inv E 0 trivial), by decide, by decide⟩

/-- every node other than the root was created by an edge from an earlier node -/
def Par (s : SD σ) : Prop :=
  ∀ j, 0 < j → j < s.nodes.length → ∃ e ∈ s.edges, e.2.1 = j ∧ e.1 < j

theorem expandOne_par (E : Env σ) (s : SD σ) (i : Nat) (h : Par s) : Par (expandOne E s i) := by
  refine expandOne_cases E s i h fun p extra hp _ hnd hex j hj0 hjl => ?_
  by_cases hj : j < s.nodes.length
  · obtain ⟨e, he, h1, h2⟩ := h j hj0 hj
    exact ⟨e, List.mem_append_left _ he, h1, h2⟩
  · -- a new node is the percolation of a motif; it is found under its index because it was not there before
    have hi := (List.getElem?_eq_some_iff.1 hp).1
    have hk : j - s.nodes.length < extra.length := by
      simp only [List.length_append] at hjl; omega
    obtain ⟨⟨m, hm, hmq⟩, hqn⟩ := (hex _).1 (List.getElem_mem hk)
    refine ⟨_, List.mem_append_right _ (List.mem_map.2 ⟨m, hm, rfl⟩), ?_, by omega⟩
    simp only [hmq, List.idxOf_append, if_neg hqn, hnd.idxOf_getElem]
    omega

theorem init_par (root : σ) : Par (init root) := by
  intro j h0 hl; simp [init] at hl; omega

/-- the spaces the fully expanded diagram must contain -/
inductive Reachable (E : Env σ) (root : σ) : σ → Prop
  | root : Reachable E root root
  | child {p m} : Reachable E root p → m ∈ E.maxT p → Reachable E root (E.perc m)

theorem reachable_of_mem (E : Env σ) (root : σ) (s : SD σ) (h : Inv E s none) (hp : Par s)
    (hroot : s.nodes[0]? = some root) (j : Nat) : ∀ q, s.nodes[j]? = some q → Reachable E root q := by
  induction j using Nat.strongRecOn with
  | _ j ih =>
    intro q hq
    obtain rfl | hj0 := Nat.eq_zero_or_pos j
    · exact Option.some.inj (hroot ▸ hq) ▸ .root
    · obtain ⟨⟨k, _, m⟩, he, rfl, hlt⟩ := hp j hj0 (List.getElem?_eq_some_iff.1 hq).1
      obtain ⟨p, hp, hm, hq'⟩ := h.edge he
      exact Option.some.inj (hq' ▸ hq) ▸ .child (ih k hlt p hp) hm

/-- **C02 core (node part).** The nodes of a fully expanded diagram are exactly the spaces reachable from
    the root by "percolation of a stable motif" – the abstract succession diagram.  (Edges and motif
    lists are given by the `full` clause of the invariant.) -/
theorem nodes_iff_reachable (E : Env σ) (root : σ) (s : SD σ) (h : Inv E s none) (hp : Par s)
    (hroot : s.nodes[0]? = some root)
    (hall : ∀ i, i < s.nodes.length → s.exp[i]? = some true) :
    ∀ p, p ∈ s.nodes ↔ Reachable E root p := by
  refine fun p => ⟨fun hpn => ?_, fun hr => ?_⟩
  · obtain ⟨j, hj⟩ := List.getElem?_of_mem hpn
    exact reachable_of_mem E root s h hp hroot j p hj
  · induction hr with
    | root => exact List.mem_of_getElem? hroot
    | child _ hm ih =>
      obtain ⟨j, hj⟩ := List.getElem?_of_mem ih
      exact (h.full j _ (hall j (List.getElem?_eq_some_iff.1 hj).1) hj).2 _ hm

end Balm.SDm
