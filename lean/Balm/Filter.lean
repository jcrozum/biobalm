/-!
# The candidate filter over an abstract reachability relation

`filt` goes through the candidates and keeps one iff it reaches nothing that is avoided: no later candidate, no state
of the children's region `K`, nothing reachable from a candidate kept before.  `filt_spec`: if every own attractor
holds a candidate, exactly one candidate is kept in each.  The step lemmas `Cover.reject` and `Good.accept` are also
what the executable loop is proved from (`BalmProofs/SymLoopSpec.lean`).
-/
namespace Balm.Filter
open Classical

variable {α : Type}

structure Sys (α : Type) where
  R : α → α → Prop
  refl : ∀ s, R s s
  trans : ∀ {a b c}, R a b → R b c → R a c

def IsAttr (S : Sys α) (A : α → Prop) : Prop :=
  (∃ s, A s) ∧ ∀ s, A s → ∀ t, (A t ↔ S.R s t)

theorem attr_eq_of_meet (S : Sys α) {A B : α → Prop} (hA : IsAttr S A) (hB : IsAttr S B)
    {t : α} (ha : A t) (hb : B t) : ∀ u, A u ↔ B u := by
  intro u
  rw [hA.2 t ha u, hB.2 t hb u]

/-- avoid set seen by candidate `c`: later candidates, children region, closures of found seeds -/
def Avoid (S : Sys α) (K : α → Prop) (rest found : List α) (t : α) : Prop :=
  t ∈ rest ∨ K t ∨ ∃ f ∈ found, S.R f t

noncomputable def filt (S : Sys α) (K : α → Prop) : List α → List α → List α
  | [], found => found
  | c :: rest, found =>
    if ∃ t, S.R c t ∧ Avoid S K rest found t then filt S K rest found
    else filt S K rest (c :: found)

/-- own attractor of the node region `X` with children region `K` -/
def Own (S : Sys α) (X K : α → Prop) (A : α → Prop) : Prop :=
  IsAttr S A ∧ (∀ s, A s → X s) ∧ (∀ s, A s → ¬ K s)

structure Good (S : Sys α) (X K : α → Prop) (found : List α) : Prop where
  inOwn : ∀ f ∈ found, ∃ A, Own S X K A ∧ A f
  distinct : found.Pairwise (fun f g => ∀ A, Own S X K A → A f → ¬ A g)

section Step
variable {S : Sys α} {X K : α → Prop} {c : α} {rest found : List α}

def Cover (S : Sys α) (X K : α → Prop) (found rest : List α) : Prop :=
  ∀ A, Own S X K A → (∃ f ∈ found, A f) ∨ (∃ c ∈ rest, A c)

/-- Rejection loses nothing: an own attractor that holds `c` also holds the avoided state `c`
    reaches, which is a later candidate or lies in the closure, hence in the attractor, of a seed. -/
theorem Cover.reject (hin : ∀ f ∈ found, ∃ A, Own S X K A ∧ A f) (hc : Cover S X K found (c :: rest))
    (hrej : ∃ t, S.R c t ∧ Avoid S K rest found t) : Cover S X K found rest := by
  intro A hA
  rcases hc A hA with h | ⟨c', hc', hAc'⟩
  · exact .inl h
  rcases List.mem_cons.1 hc' with rfl | hmem
  · obtain ⟨t, hct, hav⟩ := hrej
    have hAt : A t := (hA.1.2 _ hAc' t).2 hct
    rcases hav with h1 | h2 | ⟨f, hf, hft⟩
    · exact .inr ⟨t, h1, hAt⟩
    · exact absurd h2 (hA.2.2 t hAt)
    · obtain ⟨B, hB, hBf⟩ := hin f hf
      exact .inl ⟨f, hf, (attr_eq_of_meet S hA.1 hB.1 hAt ((hB.1.2 _ hBf t).2 hft) f).2 hBf⟩
  · exact .inr ⟨c', hmem, hAc'⟩

/-- Acceptance finds a new own attractor: the attractor `A` that `c` reaches is own and holds no
    seed and no later candidate, so by the cover it holds `c`.  Of the closures of the seeds only the
    seeds themselves need be out of reach (who reaches an attractor reaches all of it); `found'` is
    `found` with `c` put in at either end. -/
theorem Good.accept (hX : ∀ s t, X s → S.R s t → X t)
    (hterm : ∀ s, X s → ∃ t A, S.R s t ∧ IsAttr S A ∧ A t) (hcX : X c)
    (hg : Good S X K found) (hc : Cover S X K found (c :: rest))
    (hno : ∀ t, S.R c t → ¬ (t ∈ rest ∨ K t ∨ t ∈ found)) {found' : List α} (hp : found'.Perm (c :: found)) :
    Good S X K found' ∧ Cover S X K found' rest := by
  obtain ⟨t, A, hct, hA, hAt⟩ := hterm c hcX
  have hcA : ∀ s, A s → S.R c s := fun s hs => S.trans hct ((hA.2 t hAt s).1 hs)
  have hOwn : Own S X K A :=
    ⟨hA, fun s hs => hX c s hcX (hcA s hs), fun s hs hk => hno s (hcA s hs) (.inr (.inl hk))⟩
  have hnew : ∀ f ∈ found, ¬ A f := fun f hf hAf => hno f (hcA f hAf) (.inr (.inr hf))
  have hAc : A c := by
    rcases hc A hOwn with ⟨f, hf, hAf⟩ | ⟨c', hc', hAc'⟩
    · exact absurd hAf (hnew f hf)
    rcases List.mem_cons.1 hc' with rfl | hmem
    · exact hAc'
    · exact absurd (.inl hmem) (hno c' (hcA c' hAc'))
  refine ⟨⟨fun f hf => ?_, ?_⟩, fun B hB => ?_⟩
  · rcases List.mem_cons.1 (hp.mem_iff.1 hf) with rfl | hf
    · exact ⟨A, hOwn, hAc⟩
    · exact hg.inOwn f hf
  · refine hp.symm.pairwise (List.pairwise_cons.2 ⟨fun g hg' B hB hBc hBg => ?_, hg.distinct⟩)
      fun h B hB hy hx => h B hB hx hy
    exact hnew g hg' ((attr_eq_of_meet S hA hB.1 hAc hBc g).2 hBg)
  · rcases hc B hB with ⟨f, hf, hBf⟩ | ⟨c', hc', hBc'⟩
    · exact .inl ⟨f, hp.mem_iff.2 (.tail _ hf), hBf⟩
    rcases List.mem_cons.1 hc' with rfl | hmem
    · exact .inl ⟨c', hp.mem_iff.2 (.head _), hBc'⟩
    · exact .inr ⟨c', hmem, hBc'⟩

end Step

/- `hK` is not used. -/
theorem filt_spec (S : Sys α) (X K : α → Prop)
    (hX : ∀ s t, X s → S.R s t → X t)
    (hK : ∀ s t, K s → S.R s t → K t)
    (hterm : ∀ s, X s → ∃ t A, S.R s t ∧ IsAttr S A ∧ A t) :
    ∀ (rest found : List α),
      (∀ c ∈ rest, X c) →
      Good S X K found →
      (∀ A, Own S X K A → (∃ f ∈ found, A f) ∨ (∃ c ∈ rest, A c)) →
      Good S X K (filt S K rest found) ∧
      (∀ A, Own S X K A → ∃ f ∈ filt S K rest found, A f) := by
  intro rest found hin hg hc
  fun_induction filt S K rest found with
  | case1 found =>
    exact ⟨hg, fun A hA => (hc A hA).resolve_right (by simp)⟩
  | case2 c rest found hrej ih =>
    exact ih (fun c' h => hin c' (.tail _ h)) hg (Cover.reject hg.inOwn hc hrej)
  | case3 c rest found hrej ih =>
    obtain ⟨hg', hc'⟩ := hg.accept hX hterm (hin c (.head _)) hc
      (fun t h1 h2 => hrej ⟨t, h1, h2.imp_right (.imp_right fun h => ⟨t, h, S.refl t⟩)⟩) (.refl _)
    exact ih (fun c' h => hin c' (.tail _ h)) hg' hc'

end Balm.Filter
