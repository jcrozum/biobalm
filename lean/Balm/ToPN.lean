import Balm.Siphon
namespace Balm

variable {n : Nat}

/-- the function whose implicants become the transitions moving `v` to `up`:
    `f_v ∧ ¬x_v` for `up = true`, `¬f_v ∧ x_v` for `up = false` -/
def moveFn (N : Net n) (v : Fin n) (up : Bool) : State n → Bool :=
  fun s => (N.f v s == up) && (s[v] == !up)

/-- transitions created by `_create_transitions` from the cubes of one direction of one variable -/
def transOf (v : Fin n) (up : Bool) (cubes : List (Space n)) : List (Trans n) :=
  cubes.map fun c => { v := v, up := up, c := c }

open FinIdx in
theorem moveFn_iff (N : Net n) (v : Fin n) (up : Bool) (s : State n) :
    moveFn N v up s = true ↔ s[v] = !up ∧ N.f v s = up := by
  simp only [moveFn, Bool.and_eq_true, beq_iff_eq, and_comm]

/-- **C10 core.** If, for every variable and direction, the cubes cover exactly
    `moveFn` (which `dnf_correct` gives for the generator), then the net built from them is
    `Faithful` – the hypothesis of `siphon_iff_trapspace`. -/
theorem faithful_of_covers (N : Net n) (cubes : Fin n → Bool → List (Space n))
    (hcov : ∀ v up s, (∃ c ∈ cubes v up, c.Mem s) ↔ moveFn N v up s = true)
    (ts : List (Trans n))
    (hts : ∀ t, t ∈ ts ↔ ∃ v up, t ∈ transOf v up (cubes v up)) :
    Faithful N ts := by
  intro s v up
  rw [← moveFn_iff, ← hcov]
  constructor
  · rintro ⟨t, ht, rfl, rfl, hsv, hsat⟩
    obtain ⟨v, up, ht'⟩ := (hts t).1 ht
    obtain ⟨c, hc, rfl⟩ := List.mem_map.1 ht'
    refine ⟨c, hc, fun j b hj => ?_⟩
    by_cases hjv : j = v
    · -- the cube's own literal on `v` can only be `v = !up`: some state of the cube moves `v` to `up`
      subst hjv
      obtain ⟨u, hu⟩ := Space.exists_mem c
      have := (moveFn_iff N j up u).1 ((hcov j up u).1 ⟨c, hc, hu⟩)
      rw [hsv, ← this.1, hu j b hj]
    · exact hsat j b hjv hj
  · rintro ⟨c, hc, hmem⟩
    have hm := (moveFn_iff N v up s).1 ((hcov v up s).1 ⟨c, hc, hmem⟩)
    exact ⟨⟨v, up, c⟩, (hts _).2 ⟨v, up, List.mem_map.2 ⟨c, hc, rfl⟩⟩, rfl, rfl, hm.1,
      fun j b _ hj => hmem j b hj⟩

end Balm
