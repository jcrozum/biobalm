import Balm.Impl.Scc
/-!
# The component network of the SCC model has the trap spaces of the main network over the component (C01, C03)

`Impl.subNet N p comp` represents `component_subdiagram(comp, node)` over the same variables: component variables keep
their update functions (read with the node's fixed values imposed), every other variable becomes a constant.
`subNet_trap_iff`: when the component is closed under regulators inside `p` (what `source_SCCs` guarantees: nothing outside
the component regulates it), a space `T` that fixes component variables only is a trap space of the component network
(together with the constants) exactly when `T` on top of the node's space `p` is a trap space of the main network - provided
`p` itself is one.  So the inner diagram of the model ranges over the same trap spaces as the real component diagram.
-/
namespace Balm.Impl

open Balm

variable {n : Nat}

/-- the component does not read anything outside itself once the values fixed by `p` are imposed -/
def CompClosed (N : Net n) (p : Space n) (comp : List (Fin n)) : Prop :=
  ∀ i ∈ comp, ∀ s t : State n, (∀ j ∈ comp, s[j] = t[j]) → N.f i (overlay p s) = N.f i (overlay p t)

def constsOf (p : Space n) (comp : List (Fin n)) : Space n :=
  Vector.ofFn fun i => if comp.contains i then none else some ((p[i]).getD false)

def withConsts (p : Space n) (comp : List (Fin n)) (T : Space n) : Space n :=
  Vector.ofFn fun i => if comp.contains i then T[i] else some ((p[i]).getD false)

def onTop (p : Space n) (comp : List (Fin n)) (T : Space n) : Space n :=
  Vector.ofFn fun i => if comp.contains i then T[i] else p[i]

section
open FinIdx

variable (p : Space n) (comp : List (Fin n)) (T : Space n) (j : Fin n)

theorem overlay_get (s : State n) : (overlay p s)[j] = (p[j]).getD s[j] :=
  ofFn_get ..

theorem overlay_of_mem (s : State n) (h : p.Mem s) : overlay p s = s := by
  refine vec_ext fun i => ?_
  rw [overlay_get]
  cases hp : p[i] with
  | none => rfl
  | some b => exact (h i b hp).symm

theorem constsOf_get : (constsOf p comp)[j] = if j ∈ comp then none else some ((p[j]).getD false) := by
  simp only [constsOf, ofFn_get, List.contains_iff_mem]

theorem withConsts_get : (withConsts p comp T)[j] = if j ∈ comp then T[j] else some ((p[j]).getD false) := by
  simp only [withConsts, ofFn_get, List.contains_iff_mem]

theorem onTop_get : (onTop p comp T)[j] = if j ∈ comp then T[j] else p[j] := by
  simp only [onTop, ofFn_get, List.contains_iff_mem]

theorem subNet_f (N : Net n) (s : State n) :
    (subNet N p comp).f j s = if j ∈ comp then N.f j (overlay p s) else (p[j]).getD false := by
  simp only [subNet, List.contains_iff_mem]

end

theorem subNet_trap_iff (N : Net n) (p : Space n) (comp : List (Fin n)) (T : Space n)
    (hp : TrapSpace N p) (hfree : ∀ i ∈ comp, p[i] = none) (hcl : CompClosed N p comp) :
    TrapSpace (subNet N p comp) (withConsts p comp T) ↔ TrapSpace N (onTop p comp T) := by
  -- pointwise, both sides say: for every component variable `j` that `T` fixes, `f j` has that value on the space
  simp only [trapSpace_iff, Space.Mem, withConsts_get, onTop_get, subNet_f] at hp ⊢
  constructor
  · intro h j b hj s hs
    have hsp : p.Mem s := fun k c hk => hs k c (by
      rw [if_neg fun hkc => by rw [hfree k hkc] at hk; cases hk]; exact hk)
    split at hj
    · next hjc =>
      -- the component network is run from `s` with the outside reset to its constants
      have := h j b (by rwa [if_pos hjc]) (overlay (constsOf p comp) s) fun k c hk => by
        rw [overlay_get, constsOf_get]
        split at hk
        · next hkc => rw [if_pos hkc]; exact hs k c (by rwa [if_pos hkc])
        · next hkc => cases hk; rw [if_neg hkc]; rfl
      rw [if_pos hjc, hcl j hjc _ s fun k hk => by
        rw [overlay_get, constsOf_get, if_pos hk]; rfl, overlay_of_mem p s hsp] at this
      exact this
    · exact hp j b hj s hsp
  · intro h j b hj s hs
    split at hj
    · next hjc =>
      -- the main network is run from `s` with the values of `p` imposed
      rw [if_pos hjc]
      exact h j b (by rwa [if_pos hjc]) (overlay p s) fun k c hk => by
        rw [overlay_get]
        split at hk
        · next hkc => rw [hfree k hkc]; exact hs k c (by rwa [if_pos hkc])
        · rw [hk]; rfl
    · next hjc => cases hj; exact if_neg hjc

end Balm.Impl
