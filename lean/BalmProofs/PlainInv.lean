import BalmProofs.Expands
/-!
# C04 – lazily built diagrams are always a faithful part of the full diagram

The model's single-node expansion is `SDm.expandOneLimited` over `Impl.implEnv`; every plain
driver (BFS, DFS, target-directed, minimal-space without skipping, block without source shortcuts, attractor-seed)
changes the diagram only through `Impl.expandNode` (`Expands`, `Expands.lean`).  Hence the strict invariant `SDm.Inv` – nodes are pairwise
distinct percolation-closed trap spaces, an unexpanded node has no successor, an expanded node has
exactly the percolations of its stable motifs as successors with exactly those motifs on the
edges, in key order – holds after every plain history, for every network, limit and start node.
-/
namespace Balm.Props.C04

open Balm Balm.Impl Balm.SDm

variable {n : Nat}

def StrictInv (c : Ctx n) (d : Diag n) : Prop := SDm.Inv c.env d.core none

theorem init_inv (N : Net n) (L : Nat) : StrictInv (Ctx.mk' N L) (initDiag (Ctx.mk' N L)) :=
  SDm.init_inv _ _ (goodSpace_perc N (top_trap N))

theorem expandNode_inv (c : Ctx n) (d : Diag n) (i : Nat) (h : StrictInv c d) :
    StrictInv c (expandNode c d i).1 :=
  SDm.expandOneLimited_inv c.env c.motifLimit d.core i h

theorem Expands.inv {c : Ctx n} {d d' : Diag n} (hd : Expands c d d') (h : StrictInv c d) : StrictInv c d' :=
  hd.pres _ (expandNode_inv c) h

theorem expandBfs_inv (c : Ctx n) (d : Diag n) (start : Nat) (lv sz : Option Nat) (h : StrictInv c d) :
    StrictInv c (expandBfs c d start lv sz).1 :=
  (runOp_expands c d (.bfs start lv sz)).inv h

theorem expandDfs_inv (c : Ctx n) (d : Diag n) (start : Nat) (st sz : Option Nat) (h : StrictInv c d) :
    StrictInv c (expandDfs c d start st sz).1 :=
  (runOp_expands c d (.dfs start st sz)).inv h

theorem expandToTarget_inv (c : Ctx n) (d : Diag n) (target : Space n) (sz : Option Nat) (h : StrictInv c d) :
    StrictInv c (expandToTarget c d target sz).1 :=
  (runOp_expands c d (.target target sz)).inv h

/-- for every answer of the `min` solver it is given -/
theorem expandMinimal_inv (c : Ctx n) (d : Diag n) (start : Nat) (sz : Option Nat) (allMins : List (Space n))
    (h : StrictInv c d) : StrictInv c (expandMinimalWith c d start sz false allMins).1 :=
  (runOp_expands c d (.minimal start sz allMins)).inv h

theorem blockLevel_inv (c : Ctx n) (sz : Option Nat) (before : List Nat) :
    ∀ (cur : List Nat) (d : Diag n) (next : List Nat), StrictInv c d →
      StrictInv c (blockLevel c sz before cur d next).1 :=
  fun cur d next => (blockLevel_expands sz before cur d next).inv

theorem blockLoop_inv (c : Ctx n) (sz : Option Nat) :
    ∀ (fuel : Nat) (d : Diag n) (cur before : List Nat), StrictInv c d →
      StrictInv c (blockLoop c sz fuel d cur before).1 :=
  fun fuel d cur before => (blockLoop_expands sz fuel d cur before).inv

theorem expandBlock_inv (c : Ctx n) (d : Diag n) (sz : Option Nat) (h : StrictInv c d) :
    StrictInv c (expandBlock c d sz).1 :=
  (runOp_expands c d (.block sz)).inv h

/-- whatever the two solvers answer -/
theorem expandASeeds_inv (c : Ctx n) (d : Diag n) (sz : Option Nat) (allMins : List (Space n)) (found : List Bool)
    (h : StrictInv c d) : StrictInv c (expandASeeds c d sz allMins found).1 :=
  (runOp_expands c d (.aseeds sz allMins found)).inv h

/-- **C04 for the executable model.** For every network, every stable-motif limit and every history of plain
    operations with arbitrary start nodes, limits, targets and solver answers, the strict invariant holds in the
    resulting diagram (hence at every moment of the history). -/
theorem plain_history_inv (N : Net n) (L : Nat) (ops : List (PlainOp n)) :
    StrictInv (Ctx.mk' N L) (ops.foldl (runOp (Ctx.mk' N L)) (initDiag (Ctx.mk' N L))) :=
  (history_expands _ ops _).inv (init_inv N L)

end Balm.Props.C04
