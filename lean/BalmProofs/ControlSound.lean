import BalmProofs.DriversSpec
/-!
# Every driver the model of `find_drivers` reports forces the motif (C06)

For every driver `d` that `Impl.findDrivers` reports, every attractor of the network with `d` overridden that lies inside
the trap space `assume` has the target's values (`findDrivers_forces`, by `ldoi_sound`; that an attractor reachable from
`assume` lies inside it is `trap_override`, and the per-run judge `judgeForces` checks the same clause on the real output
by reachability).  A reported `d` touches no variable fixed in `assume_fixed` (`findDrivers_free`, the hypothesis `hd` of
`ldoi_sound`, which its proof does not use): the pool
of the "all" strategy contains such variables, but an assignment to one of them has the same logical domain of
influence as the smaller assignment without it, so minimality rules it out.
-/
namespace Balm.Impl

open Balm

variable {n : Nat}

section
open FinIdx

theorem innerOf_isSome {assume d : Space n} {i : Fin n} (h : ((innerOf assume d)[i]).isSome = true) :
    assume[i] = none ∧ (innerOf assume d)[i] = d[i] := by
  rw [innerOf_get] at h ⊢
  cases ha : assume[i] <;> simp_all

theorem drives_innerOf (N : Net n) (assume target d : Space n) :
    drives N assume target (innerOf assume d) = drives N assume target d := by
  have : withDrivers assume (innerOf assume d) = withDrivers assume d := by
    refine vec_ext fun i => ?_
    rw [withDrivers_get, withDrivers_get, innerOf_get]
    cases assume[i] <;> rfl
  unfold drives
  rw [unionSp_eq_withDrivers, unionSp_eq_withDrivers, this]

theorem Admissible.innerOf {assume target : Space n} {internal : Bool} {forbidden : List (Fin n)} {d : Space n}
    (h : Admissible assume target internal forbidden d) :
    Admissible assume target internal forbidden (innerOf assume d) :=
  ⟨fun i hi => h.inPool i ((innerOf_isSome hi).2 ▸ hi),
    fun hint i hi => (innerOf_isSome hi).2 ▸ h.values hint i ((innerOf_isSome hi).2 ▸ hi)⟩

end

/-- **reported drivers only use variables that are free in `assume_fixed`** -/
theorem findDrivers_free (N : Net n) (assume target : Space n) (internal : Bool) (bound : Option Nat)
    (forbidden : List (Fin n)) (d : Space n) (hd : d ∈ findDrivers N assume target internal bound forbidden) :
    ∀ i : Fin n, (d[i]).isSome = true → assume[i] = none := by
  obtain ⟨hadm, _, hdr, hmin⟩ := mem_findDrivers hd
  -- `d` without the variables fixed in `assume` is admissible, inside `d`, and passes the test: it is all of `d`
  exact fun i hi => (innerOf_isSome (hmin (innerOf assume d) hadm.innerOf
    (fun j hj => (innerOf_isSome hj).2 ▸ hj) ((drives_innerOf N assume target d).trans hdr) i hi)).1

theorem drives_iff (N : Net n) (assume target d : Space n) :
    drives N assume target d = true ↔ target.Ext (perc N (withDrivers assume d)) := by
  simp only [drives, unionSp_eq_withDrivers, List.all_eq_true, List.mem_finRange, true_implies]
  refine forall_congr' fun i => ?_
  split <;> simp_all

/-- **C06 for the model of `find_drivers`**: every attractor of the overridden network inside the assumed trap
    space has the target's values -/
theorem findDrivers_forces (N : Net n) (assume target : Space n) (internal : Bool) (bound : Option Nat)
    (forbidden : List (Fin n)) (hT : TrapSpace N assume) (d : Space n)
    (hd : d ∈ findDrivers N assume target internal bound forbidden)
    (A : State n → Prop) (hA : IsAttr (override N d) A) (hAT : ∀ s, A s → assume.Mem s) :
    ∀ s, A s → target.Mem s := fun s hs =>
  have hfree := findDrivers_free N assume target internal bound forbidden d hd
  Space.Mem.of_ext ((drives_iff N assume target d).1 (mem_findDrivers hd).2.2.1)
    (ldoi_sound N (constOnOf N) assume d hT (fun i b hdi => hfree i (by rw [hdi]; rfl)) A hA hAT n s hs)

end Balm.Impl
