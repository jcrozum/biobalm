import Balm.Impl.Solver
import Balm.Impl.Control
import BalmProofs.ReachSpec
/-!
# Specifications of the executable judges / reference oracles

Each Boolean function the harness evaluates on the *real* code's output is given its logical meaning, so that an `OK`
of a judge is a proof of the stated clauses for that output.  The verdicts of the diagram judges and of the Petri-net
judge are *equivalent* to their specifications (`judge…_iff`, `faithfulOnB_iff`): a failure they report is a failure of
a stated clause, never an artefact of the checker; `judgeForces` is proved sound only.  A judge is a `firstSome` of
`check`s of Boolean tests and the proofs are reflection: unfold the checks, turn each Boolean connective into the
logical one.
-/
namespace Balm.Impl

open Balm

variable {n : Nat}

theorem firstSome_none (l : List (Option String)) : firstSome l = none ↔ ∀ x ∈ l, x = none := by
  unfold firstSome
  rw [List.findSome?_eq_none_iff]
  simp

theorem firstSome_nil : firstSome [] = none := rfl

theorem firstSome_cons (x : Option String) (l : List (Option String)) :
    firstSome (x :: l) = none ↔ x = none ∧ firstSome l = none := by
  simp only [firstSome_none, List.forall_mem_cons]

theorem ite_eq_iff' {α : Type} {P : Prop} [Decidable P] {a b c : α} :
    ite P a b = c ↔ (P → a = c) ∧ (¬P → b = c) := by
  split <;> simp [*]

theorem check_none (b : Bool) (msg : String) : check b msg = none ↔ b = true := by
  unfold check
  cases b <;> simp

theorem any_beq_iff {α : Type} (l : List α) (p : α → Bool) (b : Bool) :
    (l.any p == b) = true ↔ ((∃ x ∈ l, p x = true) ↔ b = true) := by
  rw [beq_iff_eq, Bool.eq_iff_iff, List.any_eq_true]

/-! ### C10: the Petri-net judge -/

section
open FinIdx

theorem transEnabledB_iff (t : Trans n) (s : State n) : transEnabledB t s = true ↔ t.enabled s := by
  simp only [transEnabledB, Trans.enabled, Trans.cubeSat, Bool.and_eq_true, beq_iff_eq, List.all_eq_true,
    List.mem_finRange, true_implies, Bool.or_eq_true, Classical.or_iff_not_imp_left]
  refine and_congr_right fun _ => forall_congr' fun j => ?_
  cases t.c[j] <;> simp

/-- what an `OK` of the Petri-net judge means for the net restricted to a subspace `ens` -/
theorem faithfulOnB_iff (N : Net n) (ens : Space n) (ts : List (Trans n)) :
    faithfulOnB N ens ts = none ↔
      (∀ t ∈ ts, ens[t.v] = none) ∧ (∀ t ∈ ts, ∀ j : Fin n, ens[j] = none ∨ t.c[j] = none) ∧
      ∀ s, ens.Mem s → ∀ v : Fin n, ens[v] = none → ∀ up,
        ((∃ t ∈ ts, t.v = v ∧ t.up = up ∧ t.enabled s) ↔ (s[v] = !up ∧ N.f v s = up)) := by
  -- `↓`: the comparison of the two Booleans has to become `↔` before `beq_iff_eq` makes it `=`
  simp only [faithfulOnB, firstSome_cons, firstSome_nil, and_true, check_none, List.all_eq_true, mem_statesOf,
    List.mem_finRange, true_implies, Bool.or_eq_true, Option.isNone_iff_eq_none, Bool.forall_bool, ↓any_beq_iff,
    Bool.and_eq_true, beq_iff_eq, transEnabledB_iff, and_assoc, List.mem_cons, List.not_mem_nil, or_false,
    forall_eq_or_imp, forall_eq, Option.isSome_iff_ne_none, ← Decidable.imp_iff_not_or]

end

/-- **C10 (verified checker).** If the judge accepts the transition list of the *global* net, the net
    is `Faithful` to the network: in every state, some transition changing `v` to `up` is enabled iff
    the update function of `v` disagrees with its current value in that direction.  (`Faithful` is
    the hypothesis of `siphon_iff_trapspace`, so trap spaces = conflict-free siphons holds for the
    very net the real code built.) -/
theorem faithfulOnB_sound (N : Net n) (ts : List (Trans n)) (h : faithfulOnB N top ts = none) :
    Faithful N ts :=
  fun s v up => ((faithfulOnB_iff N top ts).1 h).2.2 s (Space.mem_top s) v (Vector.getElem_replicate _) up

/-! ### C09: the solver references -/

/-- candidates of a `trappist` query: trap spaces (of the network, forward time) inside `ens` and
    inside no avoided subspace -/
def IsCand (N : Net n) (ens : Space n) (avoid : List (Space n)) (t : Space n) : Prop :=
  TrapSpace N t ∧ t.le ens ∧ ∀ a ∈ avoid, ¬ t.le a

/-- the two filters of `solveRef N false ..`, as `unfold` leaves them (`rev := false`) -/
theorem mem_cands (N : Net n) (ens : Space n) (avoid : List (Space n)) (t : Space n) :
    t ∈ ((allSpaces n).filter fun p => if false = true then isRevTrapB N p else isTrapB N p).filter
      (fun t => t.leB ens && !(avoid.any fun a => t.leB a)) ↔ IsCand N ens avoid t := by
  simp only [List.mem_filter, mem_allSpaces, true_and, Bool.false_eq_true, if_false, Bool.and_eq_true,
    Bool.not_eq_true', List.any_eq_false, isTrapB_iff, Space.leB_iff, IsCand]

theorem mem_solveRef_min (N : Net n) (ens : Space n) (avoid : List (Space n)) (srcs : List (Fin n)) (p : Space n) :
    p ∈ solveRef N false .min ens avoid srcs ↔
      IsCand N ens avoid p ∧ ∀ q, IsCand N ens avoid q → q.le p → q = p := by
  unfold solveRef
  simp only [mem_filter_undominated, mem_cands, Space.leB_iff]

theorem mem_solveRef_fix (N : Net n) (ens : Space n) (avoid : List (Space n)) (srcs : List (Fin n)) (p : Space n) :
    p ∈ solveRef N false .fix ens avoid srcs ↔ IsCand N ens avoid p ∧ ∀ i : Fin n, (p[i]).isSome = true := by
  unfold solveRef
  rw [List.mem_filter, mem_cands]
  simp only [List.all_eq_true, List.mem_finRange, true_implies]

/-- the reduced-STG reference: states of `ens`, outside `avoid`, in which every variable either agrees
    with its update function or sits on its retained value -/
theorem mem_reducedFixedPoints (N : Net n) (R ens : Space n) (avoid : List (Space n)) (s : State n) :
    s ∈ reducedFixedPoints N R ens avoid ↔
      ens.Mem s ∧ (∀ a ∈ avoid, ¬ a.Mem s) ∧ ∀ i : Fin n, N.f i s = s[i] ∨ R[i] = some s[i] := by
  unfold reducedFixedPoints
  simp only [List.mem_filter, mem_statesOf, Bool.and_eq_true, Bool.not_eq_true', List.any_eq_false,
    List.all_eq_true, List.mem_finRange, true_implies, Bool.or_eq_true, beq_iff_eq, Space.memB_iff]

/-! ### C02/C03: minimal trap spaces -/

theorem mem_minTrapsIn (N : Net n) (p m : Space n) :
    m ∈ minTrapsIn N p ↔ (TrapSpace N m ∧ m.le p) ∧ ∀ q, TrapSpace N q → q.le p → q.le m → q = m := by
  rw [minTrapsIn, mem_filter_undominated]
  simp only [List.mem_filter, mem_trapSpaces, Space.leB_iff, and_imp]

/-! ### C01/C05/C08/C14: own attractors -/

theorem attrIn_iff (A : List (State n)) (p : Space n) : attrIn A p = true ↔ ∀ s ∈ A, p.Mem s := by
  simp [attrIn, List.all_eq_true, Space.memB_iff]

/-- `OWNX`: the attractors inside the node's space and inside none of the successor spaces -/
theorem mem_ownAttrs (atts : List (List (State n))) (p : Space n) (succ : List (Space n)) (A : List (State n)) :
    A ∈ ownAttrs atts p succ ↔ A ∈ atts ∧ (∀ s ∈ A, p.Mem s) ∧ ∀ q ∈ succ, ¬ ∀ s ∈ A, q.Mem s := by
  unfold ownAttrs
  simp only [List.mem_filter, Bool.and_eq_true, attrIn_iff, Bool.not_eq_true', List.any_eq_false]

/-! ### C06: the control judge -/

/-- **C06 (verified checker).** If `judgeForces` accepts an override `d` for a step from the trap
    space `prev` with motif `motif`, then every attractor of the network with `d` overridden that is
    reachable from a state of `prev` has the motif's values in all of its states. -/
theorem judgeForces_sound (N : Net n) (prev d motif : Space n) (h : judgeForces N prev d motif = none)
    (A : State n → Prop) (hA : IsAttr (override N d) A)
    (s t : State n) (hs : prev.Mem s) (hst : Reach (override N d) s t) (ht : A t) :
    ∀ u, A u → motif.Mem u := by
  simp only [judgeForces, firstSome_cons, firstSome_nil, and_true, check_none, Bool.not_eq_true', List.any_eq_false,
    mem_statesOf, lookupReach_eq, mem_reachSet, Bool.and_eq_true, not_and, Bool.not_eq_true, Bool.not_eq_false,
    inAttrB_iff, Space.memB_iff] at h
  -- `u` is reachable from `s` through `t`, and recurrent because it lies on an attractor
  exact fun u hu => h.2 s hs u (hst.trans ((hA.2 t ht u).1 hu)) fun w huw => (hA.2 w ((hA.2 u hu w).2 huw) u).1 hu

theorem Dump.space_eq_node (d : Dump n) (i : Nat) : d.space i = (d.node i).space := by
  unfold Dump.space Dump.node
  cases d.nodes[i]? <;> rfl

theorem Dump.isExp_eq_node (d : Dump n) (i : Nat) : d.isExp i = (d.node i).expanded := by
  unfold Dump.isExp Dump.node
  cases d.nodes[i]? <;> rfl

theorem Dump.mem_leaves (d : Dump n) (m : Space n) :
    m ∈ d.leaves ↔ ∃ i, i < d.nodes.length ∧ (d.node i).expanded = true ∧ d.outs i = [] ∧ (d.node i).space = m := by
  simp only [Dump.leaves, List.mem_map, List.mem_filter, List.mem_range, Bool.and_eq_true, ← Dump.isExp.eq_1,
    Dump.isExp_eq_node, Dump.succ, List.isEmpty_iff, List.map_eq_nil_iff, Dump.space_eq_node, Dump.outs, and_assoc]

theorem Dump.mem_succ (d : Dump n) (i j : Nat) : j ∈ d.succ i ↔ (i, j) ∈ d.pairs := by
  simp only [Dump.succ, Dump.pairs, List.mem_map, List.mem_filter, beq_iff_eq, Prod.mk.injEq, and_assoc]

/-! ### C02/C04/C15/C20: the diagram judges -/

/-- shape shared by `judgeStrict` and `judgeWeak`: some checks on the whole dump, then a list of checks per node -/
theorem firstSome_nodes_none (g : List (Option String)) (f : Nat → List (Option String)) (k : Nat) :
    firstSome (g ++ (List.range k).map fun i => firstSome (f i)) = none ↔
      firstSome g = none ∧ ∀ i, i < k → firstSome (f i) = none := by
  simp only [firstSome_none, List.mem_append, List.mem_map, List.mem_range, or_imp, forall_and,
    forall_exists_index, and_imp, forall_apply_eq_imp_iff₂]

/-- what `judgeStrict` establishes for a dump of the real diagram -/
structure StrictSpec (c : Ctx n) (d : Dump n) : Prop where
  root : d.nodes.length > 0 ∧ d.space 0 = c.root
  distinct : ((d.nodes.map (·.space)).eraseDups).length = d.nodes.length
  node : ∀ i, i < d.nodes.length → TrapSpace c.N (d.node i).space ∧ perc c.N (d.node i).space = (d.node i).space
  stub : ∀ i, i < d.nodes.length → (d.node i).expanded = false → d.outs i = []
  full : ∀ i, i < d.nodes.length → (d.node i).expanded = true → (d.node i).skipped = false →
    ((d.outs i).flatMap fun e => e.2.2.map fun m => (d.space e.2.1, m)).Perm
      ((c.env.maxT (d.node i).space).map fun m => (perc c.N m, m))
  depth : ∀ i, i < d.nodes.length → (d.node i).depth = longestTo d.pairs d.nodes.length i

/-- the clauses `judgeStrict` checks in addition to `StrictSpec` -/
structure StrictExtra (c : Ctx n) (d : Dump n) : Prop where
  targets : ∀ i, i < d.nodes.length → ∀ e ∈ d.outs i, e.2.1 < d.nodes.length ∧ e.2.1 ≠ i
  motifs : ∀ i, i < d.nodes.length → ∀ e ∈ d.outs i, e.2.2 ≠ []
  skipInside : ∀ i, i < d.nodes.length → (d.node i).expanded = true → (d.node i).skipped = true → ∀ e ∈ d.outs i,
    (d.space e.2.1).le (d.node i).space ∧ d.space e.2.1 ≠ (d.node i).space
  skipCover : ∀ i, i < d.nodes.length → (d.node i).expanded = true → (d.node i).skipped = true →
    ∀ m ∈ minTrapsIn c.N c.root, m.le (d.node i).space → m = (d.node i).space ∨ ∃ e ∈ d.outs i, m.le (d.space e.2.1)

theorem judgeStrict_iff (c : Ctx n) (d : Dump n) :
    judgeStrict c d true = none ↔ StrictSpec c d ∧ StrictExtra c d := by
  -- one clause `∀ i < length, chk.. i = none` per check: the checks are still folded, so `forall_and` stops there
  simp only [judgeStrict, nodeChecks, firstSome_nodes_none, firstSome_cons, firstSome_nil, and_true, forall_and]
  simp only [chkRoot, chkDistinct, chkTrap, chkPerc, chkTargets, chkMotifs, chkKind, chkDepth, check_none,
    firstSome_cons, firstSome_nil, and_true, ite_eq_iff', if_true, Bool.and_eq_true, Bool.or_eq_true,
    Bool.not_eq_true', Bool.not_eq_true, Bool.not_eq_false, decide_eq_true_eq, beq_iff_eq, bne_iff_ne,
    List.all_eq_true, List.any_eq_true, List.mem_filter, and_imp, List.isEmpty_iff, List.isEmpty_eq_false_iff,
    List.isPerm_iff, isTrapB_iff, Space.leB_iff]
  constructor
  · rintro ⟨⟨hr, hd⟩, ht, hp, htg, hm, hk, hdp⟩
    -- `hk i hi`, from `chkKind`: a stub has no out-edges; an expanded node is a skip node (inside, cover) or ordinary (`full`)
    exact ⟨⟨hr, hd, fun i hi => ⟨ht i hi, hp i hi⟩, fun i hi => (hk i hi).1, fun i hi he => ((hk i hi).2 he).2, hdp⟩,
      htg, hm, fun i hi he hs => (((hk i hi).2 he).1 hs).1, fun i hi he hs => (((hk i hi).2 he).1 hs).2⟩
  · rintro ⟨hs, hx⟩
    exact ⟨⟨hs.root, hs.distinct⟩, fun i hi => (hs.node i hi).1, fun i hi => (hs.node i hi).2, hx.targets, hx.motifs,
      fun i hi => ⟨hs.stub i hi, fun he => ⟨fun hk => ⟨hx.skipInside i hi he hk, hx.skipCover i hi he hk⟩, hs.full i hi he⟩⟩,
      hs.depth⟩

/-- **C02/C04/C15/C20 (verified checker).** An `OK` of `judgeStrict` on a dump of the real diagram
    proves the strict invariant `StrictSpec` of that diagram. -/
theorem judgeStrict_sound (c : Ctx n) (d : Dump n) (h : judgeStrict c d true = none) : StrictSpec c d :=
  ((judgeStrict_iff c d).1 h).1

theorem judgeLeaves_iff (c : Ctx n) (d : Dump n) :
    judgeLeaves c d = none ↔
      (d.leaves.eraseDups.length = d.leaves.length) ∧ ∀ m, m ∈ d.leaves ↔ m ∈ minTrapsIn c.N c.root := by
  simp only [judgeLeaves, firstSome_cons, firstSome_nil, and_true, check_none, beq_iff_eq, List.all_eq_true, List.contains_iff_mem, iff_def, forall_and]

/-- **C03 (verified checker).** An `OK` of `judgeLeaves` on a dump of the real diagram proves that the
    expanded successor-free nodes (`minimal_trap_spaces()`) are exactly the ⊆-minimal trap spaces of
    the network inside the root space (`mem_minTrapsIn`), and that the list has no more entries than
    distinct spaces (no duplicates). -/
theorem judgeLeaves_sound (c : Ctx n) (d : Dump n) (h : judgeLeaves c d = none) :
    (d.leaves.eraseDups.length = d.leaves.length) ∧ ∀ m, m ∈ d.leaves ↔ m ∈ minTrapsIn c.N c.root :=
  (judgeLeaves_iff c d).1 h

end Balm.Impl
