import Balm.Impl.CandModel
import Balm.Cand
/-!
# The candidate branching model returns a *complete* fixed-point set (C08)

For every solver that meets `SolverOK` w.r.t. a fixed-point function `fp` (the driver validates this, and
duplicate-freeness, for every recorded answer), every configuration (threshold and limit 0 included),
every NFVS and every dictionary order: a list that `candidatesModel` returns through one of its solver
branches is the complete fixed-point set of the reduced transition graph of *some* retained map.  By
the NFVS theorem (E6) such a set meets every attractor of the node that is not inside a successor –
the covering clause of C08.
-/
namespace Balm.Impl

open Balm

variable {n : Nat}

structure SolverOK (fp : Space n → List (State n)) (solve : Space n → Nat → List (State n)) : Prop where
  sub : ∀ R L x, x ∈ solve R L → x ∈ fp R
  len_le : ∀ R L, (solve R L).length ≤ max L 1
  complete_of_lt : ∀ R L, (solve R L).length < max L 1 → ∀ x ∈ fp R, x ∈ solve R L

/-- non-vacuity: the reference solver (first `max L 1` fixed points) meets `SolverOK` -/
theorem solverOK_take (fp : Space n → List (State n)) : SolverOK fp (fun R L => (fp R).take (max L 1)) :=
  let S := Cand.Solver.ofFp fp
  ⟨S.sub, S.len_le, S.complete_of_lt⟩

def SolverOK.solver {fp : Space n → List (State n)} {solve : Space n → Nat → List (State n)}
    (h : SolverOK fp solve) : Cand.Solver (Space n) (State n) :=
  ⟨fp, solve, h.sub, h.len_le, h.complete_of_lt⟩

def CompleteFor (fp : Space n → List (State n)) (C : List (State n)) (R : Space n) : Prop := ∀ x, x ∈ C ↔ x ∈ fp R

theorem complete_of_length_lt {fp : Space n → List (State n)} {solve : Space n → Nat → List (State n)}
    (h : SolverOK fp solve) {R : Space n} {L : Nat} (hlt : (solve R L).length < L) :
    CompleteFor fp (solve R L) R :=
  Cand.complete_solve h.solver R L (Nat.lt_of_lt_of_le hlt (Nat.le_max_left ..))

def ValidSt (fp : Space n → List (State n)) (st : CandSt n) : Prop := CompleteFor fp st.cands st.retained

theorem greedyPass_valid {fp : Space n → List (State n)} {solve : Space n → Nat → List (State n)}
    (h : SolverOK fp solve) (avoidEmpty : Bool) (keys : List (Fin n)) (st : CandSt n) (done : Bool)
    (hv : ValidSt fp st) :
    ValidSt fp (greedyPass solve avoidEmpty keys st done).1 ∧
      (greedyPass solve avoidEmpty keys st done).1.cands.length ≤ st.cands.length := by
  fun_induction greedyPass solve avoidEmpty keys st done with
  | case1 | case2 | case3 => exact ⟨hv, Nat.le_refl _⟩
  | case4 v vs st done _ _ r2 c2 calls hlt ih =>
    -- a flip is kept only if its answer is shorter than the limit `|cands|` it was asked with
    have := ih (complete_of_length_lt h hlt)
    exact ⟨this.1, Nat.le_trans this.2 (Nat.le_of_lt hlt)⟩
  | case5 v vs st done _ _ r2 c2 calls hlt ih => exact ih hv

theorem greedyLoop_valid {fp : Space n → List (State n)} {solve : Space n → Nat → List (State n)}
    (h : SolverOK fp solve) (avoidEmpty : Bool) (keys : List (Fin n)) :
    ∀ (fuel : Nat) (st : CandSt n), ValidSt fp st →
      ValidSt fp (greedyLoop solve avoidEmpty keys fuel st) ∧
        (greedyLoop solve avoidEmpty keys fuel st).cands.length ≤ st.cands.length := by
  intro fuel st hv
  fun_induction greedyLoop solve avoidEmpty keys fuel st with
  | case1 => exact ⟨hv, Nat.le_refl _⟩
  | case2 fuel st st' done early hx =>
    have := greedyPass_valid h avoidEmpty keys st true hv
    rwa [hx] at this
  | case3 fuel st st' done early hx _ ih =>
    have := greedyPass_valid h avoidEmpty keys st true hv
    rw [hx] at this
    exact ⟨(ih this.1).1, Nat.le_trans (ih this.1).2 this.2⟩

def Small (fp : Space n → List (State n)) (limitC : Nat) (st : CandSt n) : Prop :=
  ValidSt fp st ∧ st.cands.length < limitC

section
open FinIdx

/-- `hl`: `limitC` is `max 1 cfg.limit` where the loop is called, so the `max limitC 1` of `Cand.regenStep` is
    `limitC`. -/
theorem regenVar_refines {fp : Space n → List (State n)} {solve : Space n → Nat → List (State n)}
    (h : SolverOK fp solve) {cfg : CandCfg} {limitC : Nat} (hl : 1 ≤ limitC) {avoidEmpty : Bool}
    {keysOf : Space n → List (Fin n)} {st st' : CandSt n} {v : Fin n}
    (hres : regenVar solve cfg limitC avoidEmpty keysOf st v = some st') :
    ∃ st1, Cand.regenStep h.solver (fun R (v : Fin n) b => R.set v (some b)) limitC ⟨st.retained, st.cands⟩ v
        = some ⟨st1.retained, st1.cands⟩ ∧
      (st' = st1 ∨ st' = greedyLoop solve avoidEmpty (keysOf st1.retained) (st1.cands.length + 2) st1) := by
  unfold regenVar pickSt at hres
  unfold Cand.regenStep SolverOK.solver
  simp only [Nat.max_eq_left hl]
  -- the two bodies branch alike: `pickSt` keeps `zero` on a tie, as the repaired step does (F4b)
  grind

end

theorem regenVar_small {fp : Space n → List (State n)} {solve : Space n → Nat → List (State n)}
    (h : SolverOK fp solve) (cfg : CandCfg) (limitC : Nat) (hl : 1 ≤ limitC) (avoidEmpty : Bool)
    (keysOf : Space n → List (Fin n)) (st st' : CandSt n) (v : Fin n)
    (hC : st.cands.length < limitC)
    (hres : regenVar solve cfg limitC avoidEmpty keysOf st v = some st') : Small fp limitC st' := by
  obtain ⟨st1, h1, hs⟩ := regenVar_refines h hl hres
  have hv : Small fp limitC st1 := by
    have := Cand.regenStep_valid h.solver _ limitC (Nat.lt_of_lt_of_le hC (Nat.le_max_left ..)) h1
    rwa [Cand.Valid, Nat.max_eq_left hl] at this
  obtain rfl | rfl := hs
  · exact hv
  · exact (greedyLoop_valid h _ _ _ st1 hv.1).imp_right (Nat.lt_of_le_of_lt · hv.2)

theorem regenLoop_small {fp : Space n → List (State n)} {solve : Space n → Nat → List (State n)}
    (h : SolverOK fp solve) (cfg : CandCfg) (limitC : Nat) (hl : 1 ≤ limitC) (avoidEmpty : Bool)
    (keysOf : Space n → List (Fin n)) :
    ∀ (vs : List (Fin n)) (st st' : CandSt n), vs ≠ [] → (st.cands = [] ∨ Small fp limitC st) →
      regenLoop solve cfg limitC avoidEmpty keysOf vs st = some st' → Small fp limitC st' := by
  intro vs st st' hne hpre hres
  fun_induction regenLoop solve cfg limitC avoidEmpty keysOf vs st with
  | case1 => exact absurd rfl hne
  | case2 _ _ _ hstep => cases hres
  | case3 v vs st st1 hstep ih =>
    have hC : st.cands.length < limitC := by
      rcases hpre with h0 | hs
      · rw [h0]; exact hl
      · exact hs.2
    have hv := regenVar_small h cfg limitC hl avoidEmpty keysOf st st1 v hC hstep
    cases vs with
    | nil => cases hres; exact hv
    | cons w ws => exact ih (by simp) (Or.inr hv) hres

/-- **C08 (`candidates_complete`).** Whatever the configuration values, the NFVS, the dictionary
    orders and the solver's enumeration order: a candidate list returned by the branching logic is
    either one of the two solver-free shortcuts or the complete fixed-point set of the reduced
    transition graph for some retained map. -/
theorem candidates_complete {fp : Space n → List (State n)} {solve : Space n → Nat → List (State n)}
    (h : SolverOK fp solve) (cfg : CandCfg) (node : Space n) (avoidEmpty : Bool) (nfvs : List (Fin n))
    (retained0 : Space n) (keys0 : List (Fin n)) (greedy : Bool) (C : List (State n)) (calls : List (Call n))
    (hres : candidatesModel solve cfg node avoidEmpty nfvs retained0 keys0 greedy = (.ok C, calls)) :
    (∃ s, fullState node = some s ∧ C = [s]) ∨ (nfvs = [] ∧ avoidEmpty = false ∧ C = []) ∨
      ∃ R, CompleteFor fp C R := by
  revert C calls
  fun_cases candidatesModel solve cfg node avoidEmpty nfvs retained0 keys0 greedy <;> rintro _ _ ⟨⟩
  case case1 s hs => exact .inl ⟨s, hs, rfl⟩
  case case2 _ hsc =>
    simp only [Bool.and_eq_true, List.isEmpty_iff, Bool.not_eq_true'] at hsc
    exact .inr (.inl ⟨hsc.1, hsc.2, rfl⟩)
  -- the remaining exits (those with an error are gone): an answer below its limit, possibly minified
  case case4 hlt => exact .inr (.inr ⟨retained0, complete_of_length_lt h (Nat.lt_of_not_ge hlt)⟩)
  case case5 st0 hlt _ => exact .inr (.inr ⟨_, (greedyLoop_valid h _ _ _ st0 (complete_of_length_lt h hlt)).1⟩)
  case case6 hlt _ => exact .inr (.inr ⟨retained0, complete_of_length_lt h hlt⟩)
  case case8 hlt => exact .inr (.inr ⟨top, complete_of_length_lt h (Nat.lt_of_not_ge hlt)⟩)
  case case10 hne st hreg =>
    have hnn : nfvs ≠ [] := fun e => hne (by rw [e]; rfl)
    exact .inr (.inr ⟨_, (regenLoop_small h cfg _ (Nat.le_max_left ..) _ _ nfvs _ st hnn (.inl rfl) hreg).1⟩)

end Balm.Impl
