import Mathlib.Data.Finset.Card
import Balm.MaxT
/-!
# Enumeration by ascending size with the superset skip (`find_drivers`, C07)

`Asc.inv_range` is the one argument about the loop of `find_drivers`: sets are visited by ascending size (in any order
within a size), a set is skipped when an already reported candidate sits inside it, and otherwise its accepted
candidates are reported.  It is stated for an abstract notion of set (`sub`, `size`, membership `P` in the pool) and of
accepted candidate (`good S d`), so that it serves both the executable model over lists (`Impl.Gen`, several candidates
per set) and the order-independence statement over `Finset` (`findDrivers_spec`, the set itself being the only candidate).
-/
namespace Balm.Drivers

namespace Asc

variable {τ σ : Type} (sub : τ → τ → Prop) (size : τ → Nat) (P : τ → Prop)
  (key : σ → τ) (good : τ → σ → Prop)

def Skip (found : List σ) (S : τ) : Prop := ∃ d ∈ found, sub (key d) S

/-- what is known about the reported candidates when the sets in `seen` have been visited -/
structure Inv (seen : τ → Prop) (found : List σ) : Prop where
  covered : ∀ T, seen T → ∀ c, good T c → Skip sub key found T
  minimal : ∀ d ∈ found, ∃ S, seen S ∧ good S d ∧ ∀ T, P T → sub T S → size T < size S → ∀ c, ¬ good T c

variable {sub size P key good} (step : List σ → τ → List σ)
  (hstep : ∀ found S d, d ∈ step found S ↔ d ∈ found ∨ (¬ Skip sub key found S ∧ good S d))
  (htrans : ∀ {a b c}, sub a b → sub b c → sub a c)
  (hkey : ∀ S, P S → ∀ c, good S c → sub (key c) S)

theorem Inv.congr {seen seen' : τ → Prop} {found : List σ} (h : ∀ T, seen T ↔ seen' T)
    (hi : Inv sub size P key good seen found) : Inv sub size P key good seen' found :=
  (funext fun T => propext (h T) : seen = seen') ▸ hi

include hstep htrans hkey

theorem Inv.visit {seen : τ → Prop} {found : List σ} (h : Inv sub size P key good seen found) {S : τ} (hS : P S)
    (hlt : ∀ T, P T → size T < size S → seen T) :
    Inv sub size P key good (fun T => seen T ∨ T = S) (step found S) := by
  have hmono : ∀ {T}, Skip sub key found T → Skip sub key (step found S) T :=
    fun ⟨d, hd, hdT⟩ => ⟨d, (hstep found S d).2 (Or.inl hd), hdT⟩
  refine ⟨fun T hT c hc => ?_, fun d hd => ?_⟩
  · rcases hT with hT | rfl
    · exact hmono (h.covered T hT c hc)
    · by_cases hsk : Skip sub key found T
      · exact hmono hsk
      · exact ⟨c, (hstep found T c).2 (Or.inr ⟨hsk, hc⟩), hkey T hS c hc⟩
  · rcases (hstep found S d).1 hd with hd | ⟨hns, hd⟩
    · obtain ⟨S', hS', rest⟩ := h.minimal d hd
      exact ⟨S', Or.inl hS', rest⟩
    · -- a smaller set inside `S` with an accepted candidate is covered, and what covers it would have skipped `S`
      refine ⟨S, Or.inr rfl, hd, fun T hT hTS hlen c hc => ?_⟩
      obtain ⟨d', hd', hd'T⟩ := h.covered T (hlt T hT hlen) c hc
      exact hns ⟨d', hd', htrans hd'T hTS⟩

theorem Inv.foldl (L : List τ) : ∀ {seen found}, Inv sub size P key good seen found →
    (∀ S ∈ L, P S ∧ ∀ T, P T → size T < size S → seen T) →
    Inv sub size P key good (fun T => seen T ∨ T ∈ L) (L.foldl step found) := by
  induction L with
  | nil => exact fun h _ => h.congr (by simp)
  | cons S L ih =>
    intro seen found h hL
    have hS := hL S List.mem_cons_self
    refine (ih (h.visit step hstep htrans hkey hS.1 hS.2) fun S' hS' => ?_).congr (by simp [or_assoc])
    have hS' := hL S' (List.mem_cons_of_mem _ hS')
    exact ⟨hS'.1, fun T hT hlt => Or.inl (hS'.2 T hT hlt)⟩

theorem inv_range (enum : Nat → List τ) (henum : ∀ k S, S ∈ enum k ↔ P S ∧ size S = k) (K : Nat) :
    Inv sub size P key good (fun T => P T ∧ size T < K)
      ((List.range K).foldl (fun found k => (enum k).foldl step found) []) := by
  induction K with
  | zero => exact ⟨nofun, nofun⟩
  | succ K ih =>
    rw [List.range_succ, List.foldl_append]
    refine (ih.foldl step hstep htrans hkey (enum K) fun S hS => ?_).congr fun T => ?_
    · have hS := (henum K S).1 hS
      exact ⟨hS.1, fun T hT hlt => ⟨hT, hS.2 ▸ hlt⟩⟩
    · rw [henum, ← and_or_left, Nat.lt_succ_iff_lt_or_eq]

end Asc

variable {α : Type} [DecidableEq α]

def MinWorking (works : Finset α → Prop) (S : Finset α) : Prop :=
  works S ∧ ∀ T, T ⊂ S → ¬ works T

variable (works : Finset α → Prop) [DecidablePred works]

/-- one candidate set of the inner loop of `find_drivers`:
    skipped if some already found driver set is included in it -/
def tryOne (acc : List (Finset α)) (S : Finset α) : List (Finset α) :=
  if acc.any (fun d => d ⊆ S) then acc else if works S then acc ++ [S] else acc

/-- all candidates of one size, in the (arbitrary) order `L` -/
def sizeStep (acc : List (Finset α)) (L : List (Finset α)) : List (Finset α) :=
  L.foldl (tryOne works) acc

def Done (pool : Finset α) (k : Nat) (acc : List (Finset α)) : Prop :=
  ∀ R, R ∈ acc ↔ R ⊆ pool ∧ R.card < k ∧ MinWorking works R

theorem mem_tryOne (acc : List (Finset α)) (S d : Finset α) :
    d ∈ tryOne works acc S ↔ d ∈ acc ∨ (¬ Asc.Skip (· ⊆ ·) id acc S ∧ d = S ∧ works S) := by
  have hskip : acc.any (fun d => d ⊆ S) = true ↔ Asc.Skip (· ⊆ ·) id acc S := by
    simp only [Asc.Skip, List.any_eq_true, decide_eq_true_eq, id]
  rw [← hskip, tryOne]
  split
  · simp only [*, not_true, false_and, or_false]
  · split <;> simp [*]

/-- **C07 core.** Enumerating sizes `0..K` in ascending order, each size in
    an arbitrary order, with the superset skip, yields exactly the minimal working subsets of the
    pool of size `≤ K` – in particular independently of the iteration order of the Python `set`. -/
theorem findDrivers_spec (pool : Finset α) (K : Nat) (enum : Nat → List (Finset α))
    (henum : ∀ k S, S ∈ enum k ↔ S ⊆ pool ∧ S.card = k) :
    Done works pool (K+1) ((List.range (K+1)).foldl (fun acc k => sizeStep works acc (enum k)) []) := by
  have hinv := Asc.inv_range (size := Finset.card) (P := (· ⊆ pool)) (good := fun S d => d = S ∧ works S)
    (tryOne works) (mem_tryOne works) (fun h1 h2 => Finset.Subset.trans h1 h2)
    (fun S _ c hc => hc.1 ▸ Finset.Subset.refl c) enum henum (K + 1)
  have hfound : ∀ R ∈ _, R ⊆ pool ∧ R.card < K + 1 ∧ MinWorking works R := fun R hR => by
    obtain ⟨S, ⟨hS, hlen⟩, ⟨rfl, hw⟩, hmin⟩ := hinv.minimal R hR
    exact ⟨hS, hlen, hw, fun T hT hwT =>
      hmin T (hT.subset.trans hS) hT.subset (Finset.card_lt_card hT) T ⟨rfl, hwT⟩⟩
  refine fun R => ⟨hfound R, fun ⟨hR, hlen, hw, hmin⟩ => ?_⟩
  -- a minimal working set is covered by a reported one, which works and hence is not strictly inside it
  obtain ⟨d, hd, hdR⟩ := hinv.covered R ⟨hR, hlen⟩ R ⟨rfl, hw⟩
  rcases eq_or_ssubset_of_subset hdR with rfl | hlt
  · exact hd
  · exact absurd (hfound d hd).2.2.1 (hmin d hlt)

/-- **C07.** With `Done`: every working subset of the pool within the bound contains a reported one. -/
theorem exists_min_below (works : Finset α → Prop) (S : Finset α) (h : works S) :
    ∃ T, T ⊆ S ∧ MinWorking works T := by
  obtain ⟨m, hm, hle, hmin⟩ := exists_minimal_below (· ⊆ ·) Finset.Subset.refl Finset.Subset.trans Finset.card
    (fun h hne => Finset.card_lt_card (h.ssubset_of_ne hne)) works S h
  exact ⟨m, hle, hm, fun T hT hw => hT.ne (hmin T hw hT.subset)⟩

end Balm.Drivers
