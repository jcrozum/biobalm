import Balm.Impl.Control
import BalmProofs.Drivers
/-!
# Soundness, completeness and minimality of the executable `findDrivers` (C07)

`find_drivers` enumerates variable sets of the pool by ascending size, skips a set when the variables of an
already reported driver are all in it, and otherwise reports every candidate assignment over the set that passes
the acceptance test.  `Gen` is that loop for any candidate generator whose candidates over a set use exactly that
set (`Drivers.Asc.inv_range` for sets given as lists); the executable model `Impl.findDrivers` (the function the real
output is compared with literally) is this loop (`findDrivers_eq_gen`).
-/
namespace Balm.Impl

open Balm

theorem mem_combos {α : Type} (l : List α) (k : Nat) (s : List α) :
    s ∈ combos l k ↔ s.Sublist l ∧ s.length = k := by
  fun_induction combos l k generalizing s with
  | case1 => simp +contextual [List.length_eq_zero_iff]
  | case2 => simp; rintro rfl; simp
  | case3 x xs k ih1 ih2 =>
    simp only [List.mem_append, List.mem_map, ih1, ih2]
    constructor
    · rintro (⟨t, ⟨h1, h2⟩, rfl⟩ | ⟨h1, h2⟩)
      · exact ⟨h1.cons_cons x, by simp [h2]⟩
      · exact ⟨h1.cons x, h2⟩
    · rintro ⟨h1, h2⟩
      cases h1 with
      | cons _ h => exact Or.inr ⟨h, h2⟩
      | cons_cons _ h => exact Or.inl ⟨_, ⟨h, by simpa using h2⟩, rfl⟩

namespace Gen

variable {ι σ : Type} [DecidableEq ι]

/-- one variable set of the enumeration -/
def step (dm : σ → List ι) (cands : List ι → List σ) (ok : σ → Bool) (found : List σ) (set : List ι) : List σ :=
  if found.any (fun d => (dm d).all set.contains) then found
  else (cands set).foldl (fun f c => if ok c then f ++ [c] else f) found

def result (dm : σ → List ι) (cands : List ι → List σ) (ok : σ → Bool) (pool : List ι) (K : Nat) : List σ :=
  (List.range (K + 1)).foldl (fun found k => (combos pool k).foldl (step dm cands ok) found) []

theorem foldl_accept (ok : σ → Bool) (cs found : List σ) :
    cs.foldl (fun f c => if ok c then f ++ [c] else f) found = found ++ cs.filter ok := by
  induction cs generalizing found with
  | nil => simp
  | cons c cs ih => cases h : ok c <;> simp [ih, h]

variable (dm : σ → List ι) (cands : List ι → List σ) (ok : σ → Bool)

def Skip (found : List σ) (set : List ι) : Prop := ∃ d ∈ found, ∀ i ∈ dm d, i ∈ set

theorem mem_step (found : List σ) (set : List ι) (d : σ) :
    d ∈ step dm cands ok found set ↔ d ∈ found ∨ (¬ Skip dm found set ∧ d ∈ cands set ∧ ok d = true) := by
  have hskip : found.any (fun d => (dm d).all set.contains) = true ↔ Skip dm found set := by
    simp only [Skip, List.any_eq_true, List.all_eq_true, List.contains_iff_mem]
  rw [step, foldl_accept, ← hskip]
  split
  · next h => exact ⟨Or.inl, fun h' => h'.elim id fun h' => absurd h h'.1⟩
  · next h => rw [List.mem_append, List.mem_filter, and_iff_right h]

structure Inv (pool : List ι) (k m : Nat) (found : List σ) : Prop where
  covered : ∀ T, T.Sublist pool → T.length < k → ∀ c ∈ cands T, ok c = true → Skip dm found T
  minimal : ∀ d ∈ found, ∃ S, S.Sublist pool ∧ S.length < m ∧ d ∈ cands S ∧ ok d = true ∧
    ∀ T, T.Sublist pool → (∀ i ∈ T, i ∈ S) → T.length < S.length → ∀ c ∈ cands T, ok c = false

variable {dm cands ok}

def Exact (dm : σ → List ι) (cands : List ι → List σ) (pool : List ι) : Prop :=
  ∀ S, S.Sublist pool → ∀ c ∈ cands S, (∀ i ∈ dm c, i ∈ S) ∧ (∀ i ∈ S, i ∈ dm c)

theorem result_inv (pool : List ι) (hex : Exact dm cands pool) (K : Nat) :
    Inv dm cands ok pool K K
      ((List.range K).foldl (fun found k => (combos pool k).foldl (step dm cands ok) found) []) :=
  have h := Drivers.Asc.inv_range (sub := fun T S => ∀ i ∈ T, i ∈ S) (good := fun S d => d ∈ cands S ∧ ok d = true)
    (step dm cands ok) (mem_step dm cands ok) (fun h1 h2 i hi => h2 i (h1 i hi))
    (fun S hS c hc => (hex S hS c hc.1).1) (combos pool) (mem_combos pool) K
  ⟨fun T hT hlen c hc hok => h.covered T ⟨hT, hlen⟩ c ⟨hc, hok⟩, fun d hd =>
    have ⟨S, ⟨hS, hlen⟩, ⟨hc, hok⟩, hmin⟩ := h.minimal d hd
    ⟨S, hS, hlen, hc, hok, fun T hT hTS hlt c => by simpa using hmin T hT hTS hlt c⟩⟩

/-- **C07, completeness of the generic loop**: every accepted candidate over a pool subset within the bound is covered by a reported
    driver whose variables all belong to that subset -/
theorem result_complete (pool : List ι) (hex : Exact dm cands pool) (K : Nat) (T : List ι) (hT : T.Sublist pool)
    (hlen : T.length ≤ K) (c : σ) (hc : c ∈ cands T) (hok : ok c = true) :
    ∃ d ∈ result dm cands ok pool K, ∀ i ∈ dm d, i ∈ T :=
  (result_inv pool hex (K + 1)).covered T hT (by omega) c hc hok

/-- **C07, minimality of the generic loop**: a reported driver is an accepted candidate of a pool subset within the bound, and no strictly
    smaller pool subset inside it has an accepted candidate -/
theorem result_minimal (pool : List ι) (hex : Exact dm cands pool) (K : Nat) (d : σ)
    (hd : d ∈ result dm cands ok pool K) :
    ∃ S, S.Sublist pool ∧ S.length ≤ K ∧ d ∈ cands S ∧ ok d = true ∧
      ∀ T, T.Sublist pool → (∀ i ∈ T, i ∈ S) → T.length < S.length → ∀ c ∈ cands T, ok c = false := by
  obtain ⟨S, hS, hlen, rest⟩ := (result_inv (ok := ok) pool hex (K + 1)).minimal d hd
  exact ⟨S, hS, by omega, rest⟩

end Gen

variable {n : Nat}

/-- candidates of a variable set: the target's own values (internal strategy) or all assignments -/
def candsOf (inner : Space n) (internal : Bool) (set : List (Fin n)) : List (Space n) :=
  if internal then [Vector.ofFn fun i => if set.contains i then inner[i] else none]
  else (assignments set).map spaceOfAssign

def innerOf (assume target : Space n) : Space n :=
  Vector.ofFn fun i => if (assume[i]).isSome then none else target[i]

def poolOf (inner : Space n) (internal : Bool) (forbidden : List (Fin n)) : List (Fin n) :=
  (if internal then dom inner else List.finRange n).filter fun i => !forbidden.contains i

/-- admissible driver assignment of a query: only pool variables; with the internal strategy the target's values -/
structure Admissible (assume target : Space n) (internal : Bool) (forbidden : List (Fin n)) (d : Space n) : Prop where
  inPool : ∀ i, (d[i]).isSome = true → i ∈ poolOf (innerOf assume target) internal forbidden
  values : internal = true → ∀ i : Fin n, (d[i]).isSome = true → d[i] = (innerOf assume target)[i]

structure DriverOK (N : Net n) (assume target : Space n) (pool : List (Fin n)) (maxSize : Nat) (d : Space n) : Prop where
  works : drives N assume target d = true
  inPool : ∀ i, (d[i]).isSome = true → i ∈ pool
  size : (dom d).length ≤ maxSize

/-- **C07.** The executable model of `find_drivers` is the generic enumeration. -/
theorem findDrivers_eq_gen (N : Net n) (assume target : Space n) (internal : Bool) (bound : Option Nat)
    (forbidden : List (Fin n)) :
    findDrivers N assume target internal bound forbidden =
      Gen.result dom (candsOf (innerOf assume target) internal) (drives N assume target)
        (poolOf (innerOf assume target) internal forbidden) (bound.getD (dom (innerOf assume target)).length) := by
  -- the two differ in where the strategy is looked at: once per set, or once per candidate list (`List.foldl_map`)
  cases internal
  · delta Gen.result Gen.step candsOf
    simp only [Bool.false_eq_true, if_false, List.foldl_map]
    rfl
  · rfl

section
open FinIdx

theorem mem_assignments (vs : List (Fin n)) (a : List (Fin n × Bool)) :
    a ∈ assignments vs ↔ a.map (·.1) = vs := by
  induction vs generalizing a with
  | nil => simp [assignments]
  | cons v vs ih =>
    simp only [assignments, List.mem_flatMap, List.mem_map, ih]
    constructor
    · rintro ⟨b, -, t, rfl, rfl⟩; rfl
    · cases a with
      | nil => simp
      | cons x t =>
        intro h
        simp only [List.map_cons, List.cons.injEq] at h
        exact ⟨x.2, by cases x.2 <;> simp, t, h.2, by rw [← h.1]⟩

theorem mem_dom (p : Space n) (i : Fin n) : i ∈ dom p ↔ (p[i]).isSome = true := by
  simp [dom]

theorem spaceOfAssign_graph (vs : List (Fin n)) (f : Fin n → Bool) (i : Fin n) :
    (spaceOfAssign (vs.map fun v => (v, f v)))[i] = if i ∈ vs then some (f i) else none := by
  rw [spaceOfAssign, ofFn_get]
  induction vs with
  | nil => rfl
  | cons v vs ih =>
    by_cases hv : v = i
    · simp [hv]
    · have := ih
      simp [hv, Ne.symm hv] at this ⊢
      exact this

/-- `driver | assume_fixed` of `drives` is the space of `ldoi_sound` -/
theorem unionSp_eq_withDrivers (d assume : Space n) : unionSp d assume = withDrivers assume d := rfl

theorem innerOf_get (assume target : Space n) (i : Fin n) :
    (innerOf assume target)[i] = if (assume[i]).isSome then none else target[i] :=
  ofFn_get ..

theorem poolOf_eq_filter (inner : Space n) (internal : Bool) (forbidden : List (Fin n)) :
    poolOf inner internal forbidden =
      (List.finRange n).filter fun i => !forbidden.contains i && (!internal || (inner[i]).isSome) := by
  cases internal <;> simp [poolOf, dom, List.filter_filter]

theorem mem_poolOf (inner : Space n) (internal : Bool) (forbidden : List (Fin n)) (i : Fin n) :
    i ∈ poolOf inner internal forbidden ↔ i ∉ forbidden ∧ (internal = true → (inner[i]).isSome = true) := by
  cases internal <;> simp [poolOf_eq_filter]

theorem mem_candsOf_true {inner : Space n} {S : List (Fin n)} (d : Space n) :
    d ∈ candsOf inner true S ↔ ∀ i : Fin n, d[i] = if i ∈ S then inner[i] else none := by
  simp only [candsOf, if_true, List.mem_singleton, List.contains_iff_mem]
  exact ⟨fun h i => by rw [h, ofFn_get], fun h => vec_ext fun i => by rw [h, ofFn_get]⟩

theorem mem_candsOf_false {inner : Space n} {S : List (Fin n)} (d : Space n) :
    d ∈ candsOf inner false S ↔ ∀ i : Fin n, (d[i]).isSome = true ↔ i ∈ S := by
  simp only [candsOf, Bool.false_eq_true, if_false, List.mem_map, mem_assignments]
  constructor
  · rintro ⟨a, rfl, rfl⟩ i
    rw [spaceOfAssign, ofFn_get]
    simp only [Option.isSome_map, List.find?_isSome, List.mem_map, beq_iff_eq]
  · intro h
    refine ⟨S.map fun v => (v, (d[v]).getD false), by rw [List.map_map]; exact List.map_id _, vec_ext fun i => ?_⟩
    rw [spaceOfAssign_graph, ← if_congr (h i) rfl rfl]
    cases d[i] <;> rfl

/-- variable lists in index order are equal when they have the same members: `combos` of the pool and `dom` meet
    in the same list, not only in the same set -/
theorem dom_eq_iff {d : Space n} {S : List (Fin n)} (hS : S.Sublist (List.finRange n)) :
    dom d = S ↔ ∀ i : Fin n, (d[i]).isSome = true ↔ i ∈ S := by
  simp only [← mem_dom]
  exact ⟨fun h i => h ▸ Iff.rfl, fun h => ((List.nodup_finRange n).perm_iff_eq_of_sublist List.filter_sublist hS).1
    ((List.perm_ext_iff_of_nodup ((List.nodup_finRange n).filter _) (hS.nodup (List.nodup_finRange n))).2 h)⟩

theorem mem_candsOf {assume target : Space n} {internal : Bool} {forbidden S : List (Fin n)}
    (hS : S.Sublist (poolOf (innerOf assume target) internal forbidden)) (d : Space n) :
    d ∈ candsOf (innerOf assume target) internal S ↔ Admissible assume target internal forbidden d ∧ dom d = S := by
  rw [dom_eq_iff (hS.trans (poolOf_eq_filter .. ▸ List.filter_sublist))]
  trans (∀ i : Fin n, (d[i]).isSome = true ↔ i ∈ S) ∧
    (internal = true → ∀ i : Fin n, (d[i]).isSome = true → d[i] = (innerOf assume target)[i])
  · cases internal
    · rw [mem_candsOf_false]
      exact ⟨fun h => ⟨h, nofun⟩, And.left⟩
    · simp only [mem_candsOf_true, true_implies, ← forall_and]
      refine forall_congr' fun i => ?_
      by_cases hi : i ∈ S
      · -- a pool variable has a value in the target
        simp only [hi, if_true, iff_true]
        exact ⟨fun h => ⟨h ▸ ((mem_poolOf _ _ _ i).1 (hS.subset hi)).2 rfl, fun _ => h⟩, fun h => h.2 h.1⟩
      · simp only [hi, if_false, iff_false]
        exact ⟨fun h => by simp [h], fun h => by simpa using h.1⟩
  · exact ⟨fun ⟨hd, hv⟩ => ⟨⟨fun i hi => hS.subset ((hd i).1 hi), hv⟩, hd⟩, fun ⟨h, hd⟩ => ⟨hd, h.values⟩⟩

theorem exact_candsOf (assume target : Space n) (internal : Bool) (forbidden : List (Fin n)) :
    Gen.Exact dom (candsOf (innerOf assume target) internal) (poolOf (innerOf assume target) internal forbidden) :=
  fun S hS c hc => by rw [← ((mem_candsOf hS c).1 hc).2]; exact ⟨fun _ => id, fun _ => id⟩

theorem Admissible.sublist {assume target : Space n} {internal : Bool} {forbidden : List (Fin n)} {d : Space n}
    (h : Admissible assume target internal forbidden d) :
    (dom d).Sublist (poolOf (innerOf assume target) internal forbidden) := by
  have := h.inPool
  rw [poolOf_eq_filter] at this ⊢
  exact List.monotone_filter_right _ fun i hi => (List.mem_filter.1 (this i hi)).2

theorem mem_findDrivers {N : Net n} {assume target : Space n} {internal : Bool} {bound : Option Nat}
    {forbidden : List (Fin n)} {d : Space n} (hd : d ∈ findDrivers N assume target internal bound forbidden) :
    Admissible assume target internal forbidden d ∧
      (dom d).length ≤ bound.getD (dom (innerOf assume target)).length ∧ drives N assume target d = true ∧
      ∀ d', Admissible assume target internal forbidden d' →
        (∀ i : Fin n, (d'[i]).isSome = true → (d[i]).isSome = true) → drives N assume target d' = true →
        ∀ i : Fin n, (d[i]).isSome = true → (d'[i]).isSome = true := by
  rw [findDrivers_eq_gen] at hd
  obtain ⟨S, hS, hlen, hcand, hok, hmin⟩ := Gen.result_minimal _ (exact_candsOf _ _ internal forbidden) _ d hd
  obtain ⟨hadm, rfl⟩ := (mem_candsOf hS d).1 hcand
  refine ⟨hadm, hlen, hok, fun d' hadm' hsub hdr => ?_⟩
  -- otherwise `d'` would be an accepted candidate over a smaller set inside that of `d`
  have hsl : (dom d').Sublist (dom d) := List.monotone_filter_right _ hsub
  have heq := hsl.eq_of_length_le (Nat.le_of_not_lt fun hlt => by
    rw [hmin _ hadm'.sublist (fun _ hi => hsl.subset hi) hlt d' ((mem_candsOf hadm'.sublist d').2 ⟨hadm', rfl⟩)] at hdr
    cases hdr)
  exact fun i hi => (mem_dom d' i).1 (heq ▸ (mem_dom d i).2 hi)

end

/-- **C07 (soundness of the model of `find_drivers`).**  The `Vector.ofFn ..` in the bound is `innerOf assume target`. -/
theorem findDrivers_sound (N : Net n) (assume target : Space n) (internal : Bool) (bound : Option Nat)
    (forbidden : List (Fin n)) (d : Space n)
    (h : d ∈ findDrivers N assume target internal bound forbidden) :
    drives N assume target d = true ∧ (∀ i, (d[i]).isSome = true → i ∉ forbidden) ∧
      (dom d).length ≤ bound.getD (dom (Vector.ofFn fun i => if (assume[i]).isSome then none else target[i] : Space n)).length :=
  have ⟨hadm, hlen, hdr, _⟩ := mem_findDrivers h
  ⟨hdr, fun i hi => ((mem_poolOf _ _ _ i).1 (hadm.inPool i hi)).1, hlen⟩

/-- **C07, completeness of the model of `find_drivers`**: every admissible assignment within the size bound
    that passes the acceptance test is covered by a reported driver over a subset of its variables. -/
theorem findDrivers_complete (N : Net n) (assume target : Space n) (internal : Bool) (bound : Option Nat)
    (forbidden : List (Fin n)) (d : Space n) (hadm : Admissible assume target internal forbidden d)
    (hsize : (dom d).length ≤ bound.getD (dom (innerOf assume target)).length)
    (hdr : drives N assume target d = true) :
    ∃ d' ∈ findDrivers N assume target internal bound forbidden, ∀ i : Fin n, (d'[i]).isSome = true → (d[i]).isSome = true := by
  rw [findDrivers_eq_gen]
  obtain ⟨d', hd', hsub⟩ := Gen.result_complete _ (exact_candsOf assume target internal forbidden) _
    (dom d) hadm.sublist hsize d ((mem_candsOf hadm.sublist d).2 ⟨hadm, rfl⟩) hdr
  exact ⟨d', hd', fun i hi => (mem_dom d i).1 (hsub i ((mem_dom d' i).2 hi))⟩

/-- **C07, minimality of the model of `find_drivers`**: no admissible assignment over a strictly smaller set of
    variables of a reported driver passes the acceptance test. -/
theorem findDrivers_minimal (N : Net n) (assume target : Space n) (internal : Bool) (bound : Option Nat)
    (forbidden : List (Fin n)) (d' : Space n) (hd' : d' ∈ findDrivers N assume target internal bound forbidden)
    (d : Space n) (hadm : Admissible assume target internal forbidden d)
    (hsub : ∀ i : Fin n, (d[i]).isSome = true → (d'[i]).isSome = true) (hdr : drives N assume target d = true) :
    ∀ i : Fin n, (d'[i]).isSome = true → (d[i]).isSome = true :=
  (mem_findDrivers hd').2.2.2 d hadm hsub hdr

/-- non-vacuity: `x0' = x0, x1' = x0`, target `x1 = 1`, strategy "all": the drivers are `x0 = 1` and `x1 = 1`
    (each admissible, each passing the acceptance test, none contained in the other) -/
example :
    let N : Net 2 := ⟨fun i s => if i.val = 0 then s[0] else s[0]⟩
    (findDrivers N (Vector.replicate 2 none) #v[none, some true] false none []).map (fun d => d.toList) =
      [[some true, none], [none, some true]] := by
  decide

end Balm.Impl
