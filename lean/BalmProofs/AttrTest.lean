import Mathlib.Data.Finset.Basic

namespace Balm.AttrTest

variable {α V : Type} [DecidableEq α]

/-- per-variable transition relation of the (percolated) asynchronous graph -/
structure TS (α V : Type) where
  edge : V → α → α → Prop

def TS.Reach (ts : TS α V) : α → α → Prop :=
  Relation.ReflTransGen (fun s t => ∃ v, ts.edge v s t)

/-- the two symbolic operators the loop uses (E4): successors / predecessors under one variable that
    lie outside the given set -/
structure Ops (ts : TS α V) where
  postOut : V → Finset α → Finset α
  preOut : V → Finset α → Finset α
  post_spec : ∀ v X t, t ∈ postOut v X ↔ t ∉ X ∧ ∃ s ∈ X, ts.edge v s t
  pre_spec : ∀ v Y s, s ∈ preOut v Y ↔ s ∉ Y ∧ ∃ t ∈ Y, ts.edge v s t

variable {ts : TS α V} (ops : Ops ts)

/-- every mutation `symbolic_attractor_test` performs on `(reach_set, avoid)` is one of these two,
    whatever the saturation order, the promotion order and the size heuristic decide -/
inductive Mut : Finset α × Finset α → Finset α × Finset α → Prop
  | fwd (v : V) (r a : Finset α) : Mut (r, a) (r ∪ ops.postOut v r, a)
  | bwd (v : V) (r a : Finset α) : Mut (r, a) (r, a ∪ ops.preOut v a)

structure Good (ts : TS α V) (pivot : α) (avoid0 : Finset α) (st : Finset α × Finset α) : Prop where
  pivot_mem : pivot ∈ st.1
  fwd : ∀ t ∈ st.1, ts.Reach pivot t
  avoid_sup : avoid0 ⊆ st.2
  bwd : ∀ s ∈ st.2, ∃ t ∈ avoid0, ts.Reach s t

theorem good_init (pivot : α) (avoid0 : Finset α) : Good ts pivot avoid0 ({pivot}, avoid0) :=
  ⟨by simp, by intro t ht; simp at ht; subst ht; exact Relation.ReflTransGen.refl,
   Finset.Subset.refl _, fun s hs => ⟨s, hs, Relation.ReflTransGen.refl⟩⟩

theorem Mut.good {pivot : α} {avoid0 : Finset α} {st st' : Finset α × Finset α}
    (h : Good ts pivot avoid0 st) (m : Mut ops st st') : Good ts pivot avoid0 st' := by
  cases m with
  | fwd v r a =>
    refine ⟨Finset.mem_union_left _ h.pivot_mem, Finset.forall_mem_union.2 ⟨h.fwd, fun t ht => ?_⟩,
      h.avoid_sup, h.bwd⟩
    obtain ⟨_, s, hs, he⟩ := (ops.post_spec v r t).1 ht
    exact (h.fwd s hs).tail ⟨v, he⟩
  | bwd v r a =>
    refine ⟨h.pivot_mem, h.fwd, h.avoid_sup.trans Finset.subset_union_left,
      Finset.forall_mem_union.2 ⟨h.bwd, fun s hs => ?_⟩⟩
    obtain ⟨_, t, ht, he⟩ := (ops.pre_spec v a s).1 hs
    obtain ⟨u, hu, htu⟩ := h.bwd t ht
    exact ⟨u, hu, htu.head ⟨v, he⟩⟩

/-- exit `return None`: the two sets meet, so the pivot reaches the original avoid set -/
theorem exit_none {pivot : α} {avoid0 : Finset α} {st : Finset α × Finset α}
    (h : Good ts pivot avoid0 st) (hmeet : (st.1 ∩ st.2).Nonempty) :
    ∃ t ∈ avoid0, ts.Reach pivot t := by
  obtain ⟨x, hx⟩ := hmeet
  obtain ⟨hx1, hx2⟩ := Finset.mem_inter.1 hx
  obtain ⟨t, ht, hxt⟩ := h.bwd x hx2
  exact ⟨t, ht, (h.fwd x hx1).trans hxt⟩

/-- exit `return reach_set` (a full pass changed nothing, `hclosed`): the forward set is the forward closure
    of the pivot and the pivot cannot reach the avoid set – what `Impl.symTest` specifies (`exit_some_symTest`) -/
theorem exit_some {pivot : α} {avoid0 : Finset α} {st : Finset α × Finset α}
    (h : Good ts pivot avoid0 st) (hdisj : st.1 ∩ st.2 = ∅) (hclosed : ∀ v, ops.postOut v st.1 = ∅) :
    (∀ t, t ∈ st.1 ↔ ts.Reach pivot t) ∧ ∀ t ∈ avoid0, ¬ ts.Reach pivot t := by
  have hall : ∀ t, ts.Reach pivot t → t ∈ st.1 := by
    intro t ht
    induction ht with
    | refl => exact h.pivot_mem
    | @tail b c _ hstep ih =>
      obtain ⟨v, he⟩ := hstep
      by_contra hc
      exact Finset.notMem_empty c (hclosed v ▸ (ops.post_spec v st.1 c).2 ⟨hc, b, ih, he⟩)
  exact ⟨fun t => ⟨h.fwd t, hall t⟩, fun t ht hr =>
    Finset.notMem_empty t (hdisj ▸ Finset.mem_inter.2 ⟨hall t hr, h.avoid_sup ht⟩)⟩

theorem muts_good {pivot : α} {avoid0 : Finset α} {st st' : Finset α × Finset α}
    (h : Good ts pivot avoid0 st) (m : Relation.ReflTransGen (Mut ops) st st') :
    Good ts pivot avoid0 st' := by
  induction m with
  | refl => exact h
  | tail _ hm ih => exact Mut.good ops ih hm

end Balm.AttrTest
