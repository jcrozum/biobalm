import Batteries.Data.List.Perm
namespace Balm.Bfs

variable {S : Type}

/-- `for s in successors: if s not in seen: seen.add(s); next_level.append(s)` -/
def inner : List Nat → List Nat × List Nat → List Nat × List Nat
  | [], acc => acc
  | y :: ss, (seen, next) =>
    if y ∈ seen then inner ss (seen, next) else inner ss (y :: seen, next ++ [y])

def visit (expand : S → Nat → S × List Nat) (st : S × (List Nat × List Nat)) (x : Nat) :
    S × (List Nat × List Nat) :=
  ((expand st.1 x).1, inner (expand st.1 x).2 st.2)

/-- one BFS level (`for node in current_level`) -/
def level (expand : S → Nat → S × List Nat) (s : S) (seen cur : List Nat) : S × (List Nat × List Nat) :=
  cur.foldl (visit expand) (s, (seen, []))

/-- the outer `while len(current_level) > 0` loop, with fuel -/
def loop (expand : S → Nat → S × List Nat) : Nat → S → List Nat → List Nat → Option (S × List Nat)
  | _, s, seen, [] => some (s, seen)
  | 0, _, _, _ :: _ => none
  | f+1, s, seen, x :: cur =>
    loop expand f (level expand s seen (x :: cur)).1 (level expand s seen (x :: cur)).2.1
      (level expand s seen (x :: cur)).2.2

/-- `base`: the length of `seen` at the start of the level -/
structure Ok (B base : Nat) (acc : List Nat × List Nat) : Prop where
  nodup : acc.1.Nodup
  lt : ∀ y ∈ acc.1, y < B
  len : acc.1.length = base + acc.2.length

theorem inner_ok (B base : Nat) (ss : List Nat) (acc : List Nat × List Nat)
    (hss : ∀ y ∈ ss, y < B) (h : Ok B base acc) : Ok B base (inner ss acc) := by
  fun_induction inner ss acc with
  | case1 => exact h
  | case2 y ss seen next hy ih => exact ih (fun z hz => hss z (.tail _ hz)) h
  | case3 y ss seen next hy ih =>
    refine ih (fun z hz => hss z (.tail _ hz)) ⟨List.nodup_cons.2 ⟨hy, h.nodup⟩, ?_, ?_⟩
    · exact List.forall_mem_cons.2 ⟨hss y (.head _), h.lt⟩
    · have := h.len
      simp only [List.length_cons, List.length_append, List.length_nil] at this ⊢
      omega

/-- **C13 core for the BFS driver.** With ids bounded by `B` (the number of percolated trap spaces
    is at most 3^n), `B - |seen| + 1` rounds of fuel always suffice: the loop terminates. -/
theorem loop_terminates (expand : S → Nat → S × List Nat) (B : Nat)
    (hexp : ∀ s x, ∀ y ∈ (expand s x).2, y < B) :
    ∀ (fuel : Nat) (s : S) (seen cur : List Nat), seen.Nodup → (∀ y ∈ seen, y < B) →
      B + 1 ≤ fuel + seen.length → (loop expand fuel s seen cur).isSome := by
  intro fuel s seen cur hn hb hf
  fun_induction loop expand fuel s seen cur with
  | case1 => rfl
  | case2 =>
    -- pigeonhole: `seen` is duplicate-free with entries below `B`
    have := (List.subperm_of_subset hn fun x hx => List.mem_range.2 (hb x hx)).length_le
    rw [List.length_range] at this
    omega
  | case3 f s seen x cur ih =>
    have hg : Ok B seen.length (level expand s seen (x :: cur)).2 :=
      List.foldlRecOn (x :: cur) (visit expand) (motive := fun st => Ok B seen.length st.2) ⟨hn, hb, rfl⟩
        fun st h y _ => inner_ok B _ _ _ (hexp st.1 y) h
    -- a level that finds nothing new ends the loop whatever the fuel; otherwise `seen` has grown
    cases hnext : (level expand s seen (x :: cur)).2.2 with
    | nil => simp [loop]
    | cons y next =>
      rw [hnext] at ih
      refine ih hg.nodup hg.lt ?_
      have := hg.len
      rw [hnext] at this
      simp only [List.length_cons] at this
      omega

end Balm.Bfs
