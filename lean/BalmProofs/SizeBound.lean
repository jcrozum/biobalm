import BalmProofs.PlainInv
/-!
# The diagram of a plain history never has more than 3^n nodes (C13)

Node spaces are pairwise distinct (strict invariant) and there are `3^n` spaces over `n` variables, so every state
reachable by plain expansion calls - and with it the number of levels of the BFS driver, the length of the DFS stack
and the number of expansions any driver can make - is bounded by `3^n`.  This is the `d ≤ 3^n` part of the work bound
`W(n, d, budget)` that the work meter of C13 enforces on the real code.
-/
namespace Balm.Props.C04

open Balm Balm.Impl Balm.SDm

variable {n : Nat}

theorem size_le_of_strict (c : Ctx n) (d : Diag n) (h : StrictInv c d) : d.size ≤ 3 ^ n :=
  allSpaces_length n ▸ h.nodup.length_le_of_subset fun p _ => mem_allSpaces p

/-- **C13 (size bound).** After every plain history the model's diagram has at most `3^n` nodes. -/
theorem plain_history_size (N : Net n) (L : Nat) (ops : List (PlainOp n)) :
    (ops.foldl (runOp (Ctx.mk' N L)) (initDiag (Ctx.mk' N L))).size ≤ 3 ^ n :=
  size_le_of_strict _ _ (plain_history_inv N L ops)

end Balm.Props.C04
