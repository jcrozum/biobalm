import Balm.Impl.Block
import Balm.Impl.ASeeds
/-!
# What the plain drivers do to the diagram

The plain drivers of the model (BFS, DFS, target-directed, minimal-space without skipping, block without source
shortcuts, attractor-seed) change the diagram through `expandNode` only.  `Expands c d d'` says just that: `d'` lies in
every set of diagrams that contains `d` and is closed under single-node expansion.  Each driver is walked once
(`…_expands`); every statement "the plain operations preserve `P`" is an instance: the strict invariant (`PlainInv.lean`)
and "the diagram `d₀` is an initial part of this one" (`plain_history_grows`).
-/
namespace Balm.Props.C04

open Balm Balm.Impl Balm.SDm

variable {n : Nat} {c : Ctx n}

structure Expands (c : Ctx n) (d d' : Diag n) : Prop where
  pres : ∀ P : Diag n → Prop, (∀ d i, P d → P (expandNode c d i).1) → P d → P d'

namespace Expands

theorem refl (d : Diag n) : Expands c d d := ⟨fun _ _ h => h⟩

theorem trans {d₁ d₂ d₃ : Diag n} (h₁ : Expands c d₁ d₂) (h₂ : Expands c d₂ d₃) : Expands c d₁ d₃ :=
  ⟨fun P hP h => h₂.pres P hP (h₁.pres P hP h)⟩

theorem node (d : Diag n) (i : Nat) : Expands c d (expandNode c d i).1 := ⟨fun _ hP => hP d i⟩

end Expands

/- A driver is walked along its own recursion (`fun_induction`); in every branch the diagram is returned as it is,
   after one `expandNode`, or handed to a recursive call or to a driver walked before, so `refl`, `node` and `trans`
   close it. -/
attribute [local grind .] Expands.refl
attribute [local grind →] Expands.trans
attribute [local grind! .] Expands.node

@[local grind! .]
theorem bfsLevel_expands (sz : Option Nat) (cur : List Nat) (d : Diag n) (seen next : List Nat) :
    Expands c d (bfsLevel c sz cur d seen next).1 := by
  fun_induction bfsLevel c sz cur d seen next <;> grind

theorem bfsLoop_expands (lv sz : Option Nat) (fuel : Nat) (d : Diag n) (seen cur : List Nat) (level : Nat) :
    Expands c d (bfsLoop c lv sz fuel d seen cur level).1 := by
  fun_induction bfsLoop c lv sz fuel d seen cur level <;> grind

theorem dfsLoop_expands (st sz : Option Nat) (fuel : Nat) (d : Diag n) (seen : List Nat)
    (stack : List (Nat × Option (List Nat))) (complete : Bool) :
    Expands c d (dfsLoop c st sz fuel d seen stack complete).1 := by
  fun_induction dfsLoop c st sz fuel d seen stack complete <;> grind

@[local grind! .]
theorem targetLevel_expands (target : Space n) (sz : Option Nat) (cur : List Nat) (d : Diag n)
    (seen next : List Nat) : Expands c d (targetLevel c target sz cur d seen next).1 := by
  fun_induction targetLevel c target sz cur d seen next <;> grind

theorem targetLoop_expands (target : Space n) (sz : Option Nat) (fuel : Nat) (d : Diag n) (seen cur : List Nat) :
    Expands c d (targetLoop c target sz fuel d seen cur).1 := by
  fun_induction targetLoop c target sz fuel d seen cur <;> grind

/-- without `skip_ignored` the inner loop of the minimal-space driver does not touch the diagram -/
@[local grind =]
theorem minDrop_noskip (allMins : List (Space n)) (has : Bool) (seen succ : List Nat) (d : Diag n) :
    (minDrop c false allMins has seen succ d).2 = d := by
  fun_induction minDrop c false allMins has seen succ d <;> grind

@[local grind! .]
theorem minLoop_expands (sz : Option Nat) (allMins : List (Space n)) (fuel : Nat) (d : Diag n) (seen : List Nat)
    (mins : List (Space n)) (stack : List (Nat × Option (List Nat))) :
    Expands c d (minLoop c sz false allMins fuel d seen mins stack).1 := by
  fun_induction minLoop c sz false allMins fuel d seen mins stack <;> grind

@[local grind! .]
theorem blockLevel_expands (sz : Option Nat) (before cur : List Nat) (d : Diag n) (next : List Nat) :
    Expands c d (blockLevel c sz before cur d next).1 := by
  fun_induction blockLevel c sz before cur d next <;> grind

theorem blockLoop_expands (sz : Option Nat) (fuel : Nat) (d : Diag n) (cur before : List Nat) :
    Expands c d (blockLoop c sz fuel d cur before).1 := by
  fun_induction blockLoop c sz fuel d cur before <;> grind

@[local grind! .]
theorem seedLoop_expands (sz : Option Nat) (fuel : Nat) (d : Diag n) (seen : List Nat)
    (stack : List (Nat × Option (List Nat))) (found : List Bool) :
    Expands c d (seedLoop c sz fuel d seen stack found).1 := by
  fun_induction seedLoop c sz fuel d seen stack found <;> grind

theorem expandASeeds_expands (d : Diag n) (sz : Option Nat) (allMins : List (Space n)) (found : List Bool) :
    Expands c d (expandASeeds c d sz allMins found).1 := by
  unfold expandASeeds expandMinimalWith
  grind

inductive PlainOp (n : Nat) where
  | one (i : Nat)
  | bfs (start : Nat) (lv sz : Option Nat)
  | dfs (start : Nat) (st sz : Option Nat)
  | target (t : Space n) (sz : Option Nat)
  | minimal (start : Nat) (sz : Option Nat) (solverAnswer : List (Space n))
  | block (sz : Option Nat)
  | aseeds (sz : Option Nat) (minAnswer : List (Space n)) (solverVerdicts : List Bool)

def runOp (c : Ctx n) (d : Diag n) : PlainOp n → Diag n
  | .one i => (expandNode c d i).1
  | .bfs s lv sz => (expandBfs c d s lv sz).1
  | .dfs s st sz => (expandDfs c d s st sz).1
  | .target t sz => (expandToTarget c d t sz).1
  | .minimal s sz ans => (expandMinimalWith c d s sz false ans).1
  | .block sz => (expandBlock c d sz).1
  | .aseeds sz ms found => (expandASeeds c d sz ms found).1

theorem runOp_expands (c : Ctx n) (d : Diag n) : ∀ op, Expands c d (runOp c d op)
  | .one i => .node d i
  | .bfs .. => bfsLoop_expands ..
  | .dfs .. => dfsLoop_expands ..
  | .target .. => targetLoop_expands ..
  | .minimal .. => minLoop_expands ..
  | .block .. => blockLoop_expands ..
  | .aseeds .. => expandASeeds_expands ..

theorem history_expands (c : Ctx n) (ops : List (PlainOp n)) (d : Diag n) : Expands c d (ops.foldl (runOp c) d) :=
  List.foldlRecOn ops _ (.refl d) fun _ h op _ => h.trans (runOp_expands c _ op)

theorem runOp_pres (c : Ctx n) (P : Diag n → Prop) (hP : ∀ d i, P d → P (expandNode c d i).1)
    (d : Diag n) (op : PlainOp n) (h : P d) : P (runOp c d op) :=
  (runOp_expands c d op).pres P hP h

structure Grows (d₀ d : Diag n) : Prop where
  nodes : d₀.core.nodes <+: d.core.nodes
  edges : d₀.core.edges <+: d.core.edges
  exp : ∀ i, d₀.isExp i = true → d.isExp i = true

theorem Grows.refl (d : Diag n) : Grows d d := ⟨List.prefix_refl _, List.prefix_refl _, fun _ h => h⟩

theorem Grows.trans {a b c : Diag n} (h1 : Grows a b) (h2 : Grows b c) : Grows a c :=
  ⟨h1.nodes.trans h2.nodes, h1.edges.trans h2.edges, fun i h => h2.exp i (h1.exp i h)⟩

theorem Grows.of_core {d d' : Diag n} (h : d.core.Le d'.core) : Grows d d' :=
  ⟨h.nodes, h.edges, fun i => by simpa [Diag.isExp, Option.getD_eq_iff] using h.exp i⟩

theorem expandNode_grows (c : Ctx n) (d : Diag n) (i : Nat) : Grows d (expandNode c d i).1 :=
  .of_core (expandOneLimited_le c.env c.motifLimit d.core i)

theorem Expands.grows {d d' : Diag n} (h : Expands c d d') : Grows d d' :=
  h.pres _ (fun d' i h => h.trans (expandNode_grows c d' i)) (.refl d)

/-- **C04/C15: plain histories only add.**  Whatever plain operations follow, the diagram at any earlier moment is
    an initial part of the later one: node ids, spaces, edges with their motifs and the `expanded` flags of that moment
    are still there. -/
theorem plain_history_grows (c : Ctx n) (ops : List (PlainOp n)) (d : Diag n) :
    Grows d (ops.foldl (runOp c) d) :=
  (history_expands c ops d).grows

end Balm.Props.C04
