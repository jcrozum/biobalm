import Balm.Impl.Attr
/-!
# Specification of the executable reachability closure and of `attractors`

The work-list closure that the reference oracles and the driver run is exactly asynchronous
reachability (`mem_reachSet`), and `attractors` lists exactly the attractors in the sense of `IsAttr`
(`attractors_sound`, `attractors_complete`).
-/
namespace Balm.Impl

open Balm

variable {n : Nat}

theorem nodup_length_le (l : List (State n)) (h : l.Nodup) : l.length ≤ 2 ^ n :=
  allStates_length n ▸ h.length_le_of_subset fun s _ => mem_allStates s

/-- `seen ++ addNew seen ts` is `seen` with the members of `ts` put in at the end, each once -/
theorem addNew_spec (seen ts : List (State n)) (h : seen.Nodup) :
    (seen ++ addNew seen ts).Nodup ∧ ∀ t, t ∈ seen ++ addNew seen ts ↔ t ∈ seen ∨ t ∈ ts := by
  suffices ∀ acc : List (State n), (seen ++ acc).Nodup →
      (seen ++ ts.foldl (fun acc t => if seen.contains t || acc.contains t then acc else acc ++ [t]) acc).Nodup ∧
      ∀ t, t ∈ seen ++ ts.foldl (fun acc t => if seen.contains t || acc.contains t then acc else acc ++ [t]) acc ↔
        t ∈ seen ++ acc ∨ t ∈ ts by
    simpa [addNew] using this [] (by simpa using h)
  induction ts with
  | nil => exact fun acc h => ⟨h, fun t => by simp⟩
  | cons x ts ih =>
    intro acc hacc
    rw [List.foldl_cons]
    split <;> rename_i hx
    · have hx : x ∈ seen ++ acc := by simpa using hx
      refine ⟨(ih acc hacc).1, fun t => ((ih acc hacc).2 t).trans ?_⟩
      rw [List.mem_cons]
      exact ⟨.imp_right .inr, fun h => h.elim .inl fun h => h.elim (fun e => .inl (e ▸ hx)) .inr⟩
    · have hx : x ∉ seen ++ acc := by simpa using hx
      have hn : (seen ++ (acc ++ [x])).Nodup := by
        rw [← List.append_assoc]
        exact List.nodup_append.2 ⟨hacc, List.pairwise_singleton _ x, fun a ha b hb e => hx (List.mem_singleton.1 hb ▸ e ▸ ha)⟩
      refine ⟨(ih _ hn).1, fun t => ((ih _ hn).2 t).trans ?_⟩
      rw [← List.append_assoc, List.mem_append, List.mem_singleton, List.mem_cons, or_assoc]

structure LoopInv (N : Net n) (s0 : State n) (frontier seen : List (State n)) : Prop where
  start : s0 ∈ seen
  sub : ∀ u ∈ frontier, u ∈ seen
  nodup : seen.Nodup
  sound : ∀ u ∈ seen, Reach N s0 u
  closed : ∀ u ∈ seen, u ∉ frontier → ∀ i, step N u i ∈ seen

theorem mem_succsOf (N : Net n) (u t : State n) : t ∈ succsOf N u ↔ ∃ i, t = step N u i := by
  simp [succsOf, eq_comm]

variable {N : Net n} {s0 s : State n} {fr seen : List (State n)}

theorem LoopInv.mem_iff (hI : LoopInv N s0 [] seen) (t : State n) : t ∈ seen ↔ Reach N s0 t :=
  ⟨hI.sound t, Closed.reach (X := (· ∈ seen)) (fun u hu i => hI.closed u hu List.not_mem_nil i) hI.start⟩

theorem LoopInv.step (hI : LoopInv N s0 (s :: fr) seen) :
    LoopInv N s0 (fr ++ addNew seen (succsOf N s)) (seen ++ addNew seen (succsOf N s)) := by
  obtain ⟨hnd, hmem⟩ := addNew_spec seen (succsOf N s) hI.nodup
  simp only [mem_succsOf] at hmem
  refine ⟨(hmem _).2 (.inl hI.start), fun u hu => ?_, hnd, fun u hu => ?_, fun u hu hnf i => ?_⟩
  · exact List.mem_append.2 ((List.mem_append.1 hu).imp_left fun h => hI.sub u (.tail _ h))
  · obtain h | ⟨i, rfl⟩ := (hmem u).1 hu
    · exact hI.sound u h
    · exact (hI.sound s (hI.sub s (.head _))).tail i
  · rw [List.mem_append, not_or] at hnf
    have hu := (List.mem_append.1 hu).resolve_right hnf.2
    by_cases hus : u = s
    · exact (hmem _).2 (.inr ⟨i, hus ▸ rfl⟩)
    · exact (hmem _).2 (.inl (hI.closed u hu (fun h => (List.mem_cons.1 h).elim hus hnf.1) i))

/-- fuel: a frontier element was added to `seen` when it was found, and `seen` never holds a state twice -/
theorem mem_reachLoop (fuel : Nat) (hI : LoopInv N s0 fr seen) (hf : (2 ^ n - seen.length) + fr.length ≤ fuel)
    (t : State n) : t ∈ reachLoop N fuel fr seen ↔ Reach N s0 t := by
  fun_induction reachLoop N fuel fr seen with
  | case1 fr seen =>
    obtain rfl : fr = [] := List.eq_nil_of_length_eq_zero (by omega)
    exact hI.mem_iff t
  | case2 => exact hI.mem_iff t
  | case3 k s fr seen new ih =>
    have hlen := nodup_length_le (seen ++ new) hI.step.nodup
    refine ih hI.step ?_
    simp only [List.length_append, List.length_cons] at hf hlen ⊢
    omega

theorem mem_reachSet (N : Net n) (s t : State n) : t ∈ reachSet N s ↔ Reach N s t :=
  mem_reachLoop (2 ^ n) ⟨.head _, fun _ h => h, List.pairwise_singleton _ s,
      fun u hu => by rw [List.mem_singleton.1 hu]; exact Reach.refl s, fun u hu hnf => absurd hu hnf⟩
    (by have := Nat.one_le_two_pow (n := n); simp only [List.length_cons, List.length_nil]; omega) t

theorem lookupReach_eq (N : Net n) (s : State n) : lookupReach (reachTable N) s = reachSet N s := by
  have h : (allStates n).find? (· == s) = some s := by
    cases h : (allStates n).find? (· == s) with
    | none => simpa using List.find?_eq_none.1 h s (mem_allStates s)
    | some a => simpa using List.find?_some h
  simp [lookupReach, reachTable, List.find?_map, Function.comp_def, h]

theorem inAttrB_iff (N : Net n) (s : State n) :
    inAttrB (reachTable N) s = true ↔ ∀ t, Reach N s t → Reach N t s := by
  unfold inAttrB
  simp only [List.all_eq_true, lookupReach_eq, List.contains_iff_mem, mem_reachSet]

theorem reach_isAttr (N : Net n) (s : State n) (h : ∀ t, Reach N s t → Reach N t s) :
    IsAttr N (fun t => t ∈ reachSet N s) := by
  simp only [IsAttr, mem_reachSet]
  exact ⟨⟨s, Reach.refl s⟩, fun u hu t => ⟨(h u hu).trans, hu.trans⟩⟩

/-- `T` is kept apart from `l` so that `l` can be split at one of its members. -/
theorem attractorsOf_fold (T l : List (State n × List (State n))) :
    let f := fun (acc : List (List (State n))) (e : State n × List (State n)) =>
      if inAttrB T e.1 && !(acc.any fun A => A.contains e.1) then acc ++ [e.2] else acc
    (∀ A ∈ l.foldl f [], ∃ e ∈ l, inAttrB T e.1 = true ∧ A = e.2) ∧
      ∀ e ∈ l, inAttrB T e.1 = true → e.1 ∈ e.2 → ∃ A ∈ l.foldl f [], e.1 ∈ A := by
  intro f
  constructor
  · refine List.foldlRecOn l f (motive := fun r => ∀ A ∈ r, ∃ e ∈ l, inAttrB T e.1 = true ∧ A = e.2)
      (fun _ h => nomatch h) fun r hr e he A hA => ?_
    simp only [f] at hA
    split at hA
    · next hc =>
      exact (List.mem_append.1 hA).elim (hr A) fun h => ⟨e, he, (Bool.and_eq_true _ _ ▸ hc).1, List.mem_singleton.1 h⟩
    · exact hr A hA
  · intro e he h1 h2
    obtain ⟨l1, l2, rfl⟩ := List.append_of_mem he
    rw [List.foldl_append, List.foldl_cons]
    -- the step at `e` adds `e.2` unless `e.1` is in a set it has, and later steps only add sets
    refine List.foldlRecOn l2 f (motive := fun r => ∃ A ∈ r, e.1 ∈ A) ?_ fun r ⟨A, hA, h⟩ x _ => ⟨A, ?_, h⟩
    · generalize List.foldl f [] l1 = r
      simp only [f]
      split
      · exact ⟨e.2, List.mem_append_right _ (.head _), h2⟩
      · next hc => simpa [h1] using hc
    · simp only [f]
      split
      · exact List.mem_append_left _ hA
      · exact hA

theorem attractors_sound (N : Net n) (A : List (State n)) (h : A ∈ attractors N) :
    IsAttr N (fun t => t ∈ A) := by
  obtain ⟨e, he, h1, rfl⟩ := (attractorsOf_fold (reachTable N) (reachTable N)).1 A h
  obtain ⟨s, -, rfl⟩ := List.mem_map.1 he
  exact reach_isAttr N s ((inAttrB_iff N s).1 h1)

theorem attractors_complete (N : Net n) (A : State n → Prop) (hA : IsAttr N A) :
    ∃ L ∈ attractors N, ∀ t, A t ↔ t ∈ L := by
  obtain ⟨s, hs⟩ := hA.1
  have hin := (inAttrB_iff N s).2 fun t ht => (hA.2 t ((hA.2 s hs t).2 ht) s).1 hs
  obtain ⟨L, hL, hsL⟩ := (attractorsOf_fold (reachTable N) (reachTable N)).2 (s, reachSet N s)
    (List.mem_map.2 ⟨s, mem_allStates s, rfl⟩) hin ((mem_reachSet N s s).2 (Reach.refl s))
  -- both attractors hold `s`
  exact ⟨L, hL, fun t => (hA.2 s hs t).trans ((attractors_sound N L hL).2 s hsL t).symm⟩

end Balm.Impl
