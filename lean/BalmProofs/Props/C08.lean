import Balm.Cand
import Balm.Impl.Nfvs
import BalmProofs.CandSpec
import BalmProofs.JudgeSpec
import BalmProofs.ReachSpec
import BalmProofs.SymLoopSpec
/-! Property C08: theorems are listed in `obligations.json`; see DESIGN.md section 6. -/
