import Balm.Dynamics
import Balm.Ldoi
import BalmProofs.ControlSound
import BalmProofs.DriversSpec
import BalmProofs.JudgeSpec
import BalmProofs.ReachSpec
/-! Property C06: theorems are listed in `obligations.json`; see DESIGN.md section 6. -/
