import BalmProofs.AttrTest
import BalmProofs.Bridges
import BalmProofs.FallbackSpec
import BalmProofs.ReachSpec
import BalmProofs.SymLoopSpec
/-! Property C12: theorems are listed in `obligations.json`; see DESIGN.md section 6. -/
