import Balm.Key
import Balm.PartitionC
import Balm.SDm
import BalmProofs.Builds
import BalmProofs.JudgeSpec
import BalmProofs.PlainInv
/-! Property C02: theorems are listed in `obligations.json`; see DESIGN.md section 6. -/
