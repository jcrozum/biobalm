import Balm.AttrTerm
import Balm.Perc
import BalmProofs.Bfs
import BalmProofs.ReachSpec
import BalmProofs.SizeBound
import BalmProofs.SymLoopSpec
/-! Property C13: theorems are listed in `obligations.json`; see DESIGN.md section 6. -/
