import Balm.Impl.Asp
import Balm.Siphon
import Balm.ToPN
import BalmProofs.JudgeSpec
/-! Property C09: theorems are listed in `obligations.json`; see DESIGN.md section 6. -/
