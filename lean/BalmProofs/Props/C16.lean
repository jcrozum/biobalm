import Balm.Impl.Cache
import Balm.Impl.SkipExcl
import BalmProofs.Builds
/-! C16: `Balm.Cache.step_rel` (the "equal up to reclaimed candidates" relation is a bisimulation for
every protocol operation), `rel_reclaim`, `reclaim_transparent`, `relNode_obs` (related nodes are
observationally equal). Pickling is the identity on the protocol state.  The other theorems are listed in
`obligations.json`. -/
