import Balm.Filter
import Balm.PartitionC
import Balm.Perc
import Balm.Src
import BalmProofs.AttrTest
import BalmProofs.Bridges
import BalmProofs.JudgeSpec
import BalmProofs.ReachSpec
import BalmProofs.SubNetSpec
import BalmProofs.SymLoopSpec
/-! Property C01: theorems are listed in `obligations.json`; see DESIGN.md section 6. -/
