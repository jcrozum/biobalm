import Balm.Concrete
import Balm.Enum
import Balm.Perc
import BalmProofs.StrictSpec
/-! Property C11: theorems are listed in `obligations.json`; see DESIGN.md section 6. -/
