import Balm.Expr
import Balm.Key
import Balm.Trans
import Balm.TransNet
/-! C17: `Balm.Net.ofExprs_congr` – logically equivalent update formulas denote the same semantic
network, hence the same model results; `key_injective` – keys identify spaces for every variable
order; `attr_perm`, `attr_flip`, `ofExprs_flipExprs` – permuting the variables and encoding a variable by its
negation map attractors to attractors. -/
