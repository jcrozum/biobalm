import Balm.Depth
import Balm.Key
import BalmProofs.JudgeSpec
import BalmProofs.SubgraphSpec
/-! Property C20: theorems are listed in `obligations.json`; see DESIGN.md section 6. -/
