import Balm.ProdNet
import Balm.Src
import Balm.Trans
/-! C18: identity inputs are constant along every asynchronous path (`input_const_along`), their
single-literal subspaces are trap spaces (`single_trap`) and the least trap space of an attractor
fixes them (`least_fixes_inputs`) – the facts behind the input-conditioned clause; `reach_prod`,
`attr_prod_of`, `attr_prod_iff`, `attr_prodNet`, `attr_prodNet_split` – the attractors of a union of independent
networks are the products of the attractors of the parts. -/
