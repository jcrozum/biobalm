import Balm.Concrete
import BalmProofs.Expands
import BalmProofs.JudgeSpec
import BalmProofs.PlainInv
/-! Property C04: theorems are listed in `obligations.json`; see DESIGN.md section 6. -/
