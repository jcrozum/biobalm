import Balm.Dnf
import Balm.ToPN
import BalmProofs.JudgeSpec
/-! Property C10: theorems are listed in `obligations.json`; see DESIGN.md section 6. -/
