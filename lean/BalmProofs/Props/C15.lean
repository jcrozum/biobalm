import Balm.SDm
import BalmProofs.Builds
import BalmProofs.ContractSpec
import BalmProofs.Expands
import BalmProofs.JudgeSpec
import BalmProofs.PlainInv
import BalmProofs.WeakSpec
/-! Property C15: theorems are listed in `obligations.json`; see DESIGN.md section 6. -/
