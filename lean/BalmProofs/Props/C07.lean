import BalmProofs.ControlSound
import BalmProofs.Drivers
import BalmProofs.DriversSpec
/-! Property C07: theorems are listed in `obligations.json`; see DESIGN.md section 6. -/
