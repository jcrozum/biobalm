import Balm.Impl.Cache
import Balm.Skip
import BalmProofs.BlockSpec
import BalmProofs.JudgeSpec
import BalmProofs.ReachSpec
/-! C14: `Balm.Cache.history_fresh` (every cached field carries the tag of the node's current successor
set after every history of the protocol operations), `step_fresh`, and the negative witness
`unrepaired_skip_is_stale` for the skip operation before the repair; the other theorems are listed in
`obligations.json`. -/
