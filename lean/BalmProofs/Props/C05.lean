import Balm.Impl.SkipExcl
import Balm.Skip
import BalmProofs.Bridges
import BalmProofs.Builds
import BalmProofs.JudgeSpec
import BalmProofs.ReachSpec
import BalmProofs.SymLoopSpec
import BalmProofs.WeakSpec
/-! Property C05: theorems are listed in `obligations.json`; see DESIGN.md section 6. -/
