import Balm.Key
import BalmProofs.Drivers
import BalmProofs.StrictSpec
/-! Property C19: theorems are listed in `obligations.json`; see DESIGN.md section 6. -/
