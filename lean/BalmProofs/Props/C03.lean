import Balm.Partition
import Balm.PartitionC
import Balm.Skip
import BalmProofs.BlockSpec
import BalmProofs.Builds
import BalmProofs.JudgeSpec
import BalmProofs.PlainInv
import BalmProofs.SubNetSpec
import BalmProofs.WeakSpec
/-! Property C03: theorems are listed in `obligations.json`; see DESIGN.md section 6. -/
