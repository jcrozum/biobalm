import Balm.Impl.Strict
/-!
# Specification and order-independence of `percolate_space_strict` (C11, C19)

`percStrict N sp order`, for any iteration order of the candidate set, ends in the least extension of the
given space that is closed under strict propagation (`ClosedS`), and its result is read off that
extension (`Final`); the least closed extension is unique, hence the order does not matter.  As in the
code, a conflict is dropped, never overwritten, and a given variable whose function agrees is reported.
`ClosedS` is not the closure of `percIter` (`ClosedOver`): globally constant functions are skipped and a
variable given the opposite value is left alone; only the monotonicity of the oracle is shared.
-/
namespace Balm.Impl

open Balm

variable {n : Nat}

def Compat (sp : Space n) (v : Fin n) (b : Bool) : Prop := sp[v] = none ∨ sp[v] = some b

def ClosedS (N : Net n) (sp r : Space n) : Prop :=
  ∀ v, isConstFn N v = false → ∀ b, constOnB (N.f v) r = some b → Compat sp v b → r[v] = some b

structure Final (N : Net n) (sp : Space n) (st : StrictSt n) : Prop where
  ext : sp.Ext st.restriction
  closed : ClosedS N sp st.restriction
  least : ∀ q, sp.Ext q → ClosedS N sp q → st.restriction.Ext q
  result : ∀ v b, st.result[v] = some b ↔
    (isConstFn N v = false ∧ constOnB (N.f v) st.restriction = some b ∧ Compat sp v b)

section
open FinIdx

theorem Compat.of_ext {sp r : Space n} (h : sp.Ext r) {v : Fin n} {b : Bool} (hr : Compat r v b) :
    Compat sp v b := by
  unfold Compat at hr ⊢
  cases hs : sp[v] with
  | none => exact Or.inl rfl
  | some g =>
    rw [h v g hs] at hr
    exact Or.inr (hr.resolve_left nofun)

theorem mem_filter_ne {l : List (Fin n)} {v w : Fin n} : w ∈ l.filter (· != v) ↔ w ∈ l ∧ w ≠ v := by
  simp only [List.mem_filter, bne_iff_ne]

/-- The loop invariant.  By `done` a variable that has left the candidates need not be visited again: its
    function is constant on `r`, hence on every extension, and it was written unless a given value
    contradicts (`cands`: what a candidate has in `r` is given). -/
structure SInv (N : Net n) (sp r out : Space n) (cs : List (Fin n)) : Prop where
  ext : sp.Ext r
  least : ∀ q, sp.Ext q → ClosedS N sp q → r.Ext q
  res : ∀ v b, out[v] = some b → isConstFn N v = false ∧ r[v] = some b ∧ constOnB (N.f v) r = some b
  nodup : cs.Nodup
  cands : ∀ v ∈ cs, isConstFn N v = false ∧ r[v] = sp[v]
  done : ∀ v, isConstFn N v = false → v ∉ cs →
    ∃ b, constOnB (N.f v) r = some b ∧ (Compat sp v b → out[v] = some b)

section Step
variable {N : Net n} {sp r out : Space n} {cs : List (Fin n)} {v : Fin n} {b : Bool}

theorem SInv.write (h : SInv N sp r out cs) (hv : v ∈ cs)
    (hc : constOnB (N.f v) r = some b) (hcompat : Compat r v b) :
    SInv N sp (r.set v (some b)) (out.set v (some b)) (cs.filter (· != v)) := by
  have hK := (h.cands v hv).1
  have hext : r.Ext (r.set v (some b)) := Space.ext_set_self hcompat
  refine ⟨h.ext.trans hext, fun q hq hcl => ?_, fun w d hw => ?_, h.nodup.filter _, fun w hw => ?_,
    fun w hwK hwn => ?_⟩
  · -- a closed `q` above `r` has `v ↦ b`: the function of `v` is constant on it too
    have hrq := h.least q hq hcl
    exact hrq.set (hcl v hK b ((constOnOf N).mono hrq hc) (Compat.of_ext h.ext hcompat))
  · rw [set_get] at hw; split at hw
    · cases hw; subst_vars; exact ⟨hK, (set_get ..).trans (if_pos rfl), (constOnOf N).mono hext hc⟩
    · obtain ⟨h1, h2, h3⟩ := h.res w d hw
      exact ⟨h1, hext w d h2, (constOnOf N).mono hext h3⟩
  · obtain ⟨hw, hwv⟩ := mem_filter_ne.1 hw
    rw [set_get, if_neg hwv]
    exact h.cands w hw
  · by_cases hwv : w = v
    · subst hwv; exact ⟨b, (constOnOf N).mono hext hc, fun _ => (set_get ..).trans (if_pos rfl)⟩
    · obtain ⟨d, h1, h2⟩ := h.done w hwK fun hw => hwn (mem_filter_ne.2 ⟨hw, hwv⟩)
      exact ⟨d, (constOnOf N).mono hext h1, fun hcw => by rw [set_get, if_neg hwv]; exact h2 hcw⟩

theorem SInv.drop {g : Bool} (h : SInv N sp r out cs) (hv : v ∈ cs)
    (hc : constOnB (N.f v) r = some b) (hr : r[v] = some g) (hgb : g ≠ b) :
    SInv N sp r out (cs.filter (· != v)) := by
  refine ⟨h.ext, h.least, h.res, h.nodup.filter _, fun w hw => h.cands w (mem_filter_ne.1 hw).1,
    fun w hwK hwn => ?_⟩
  by_cases hwv : w = v
  · subst hwv
    refine ⟨b, hc, fun hcw => ?_⟩
    rw [Compat, ← (h.cands w hv).2, hr] at hcw
    exact absurd (Option.some.inj (hcw.resolve_left nofun)) hgb
  · exact h.done w hwK fun hw => hwn (mem_filter_ne.2 ⟨hw, hwv⟩)

end Step

/-- The invariant of a pass that began with `m` candidates and has yet to visit `L`.  By `undec` a pass
    that writes nothing ends in a closed space, by `meas` a pass that writes ends with fewer
    candidates. -/
structure PassInv (N : Net n) (sp : Space n) (m : Nat) (st : StrictSt n) (L : List (Fin n)) : Prop
    extends SInv N sp st.restriction st.result st.cands where
  todo : L.Nodup ∧ ∀ v ∈ L, v ∈ st.cands
  undec : st.changed = false → ∀ v ∈ st.cands, constOnB (N.f v) st.restriction ≠ none → v ∈ L
  meas : st.cands.length + st.changed.toNat ≤ m

variable {N : Net n} {sp : Space n} {m : Nat} {st : StrictSt n} {v : Fin n} {L : List (Fin n)}

theorem PassInv.step (h : PassInv N sp m st (v :: L)) : PassInv N sp m (strictStep N st v) L := by
  have hv := h.todo.2 v List.mem_cons_self
  obtain ⟨hvL, hndL⟩ := List.nodup_cons.1 h.todo.1
  have htodo : L.Nodup ∧ ∀ w ∈ L, w ∈ st.cands.filter (· != v) :=
    ⟨hndL, fun w hw => mem_filter_ne.2 ⟨h.todo.2 w (List.mem_cons_of_mem _ hw), fun e => hvL (e ▸ hw)⟩⟩
  have hlen : (st.cands.filter (· != v)).length < st.cands.length :=
    List.length_filter_lt_length_iff_exists.2 ⟨v, hv, fun e => absurd rfl (bne_iff_ne.1 e)⟩
  have hmeas : (st.cands.filter (· != v)).length + 1 ≤ m :=
    Nat.le_trans hlen (Nat.le_trans (Nat.le_add_right ..) h.meas)
  fun_cases strictStep N st v
  · next hc =>
    exact ⟨h.toSInv, ⟨hndL, fun w hw => h.todo.2 w (List.mem_cons_of_mem _ hw)⟩,
      fun hch w hw hne => (List.mem_cons.1 (h.undec hch w hw hne)).resolve_left fun e => hne (e ▸ hc),
      h.meas⟩
  · next b hc g hr hgb =>
    exact ⟨h.toSInv.drop hv hc hr (bne_iff_ne.1 hgb), htodo,
      fun hch w hw hne => have ⟨hw, hwv⟩ := mem_filter_ne.1 hw
        (List.mem_cons.1 (h.undec hch w hw hne)).resolve_left hwv,
      Nat.le_trans (Nat.add_le_add_right (Nat.le_of_lt hlen) _) h.meas⟩
  · next b hc g hr hgb =>
    exact ⟨h.toSInv.write hv hc (Or.inr (Decidable.of_not_not (mt bne_iff_ne.2 hgb) ▸ hr)), htodo, nofun,
      hmeas⟩
  · next b hc hr => exact ⟨h.toSInv.write hv hc (Or.inl hr), htodo, nofun, hmeas⟩

theorem PassInv.fold : ∀ (L : List (Fin n)) (st : StrictSt n), PassInv N sp m st L →
    PassInv N sp m (L.foldl (strictStep N) st) []
  | [], _, h => h
  | _ :: L, _, h => PassInv.fold L _ h.step

theorem PassInv.final (h : PassInv N sp m st []) (hch : st.changed = false) : Final N sp st := by
  have key : ∀ v b, isConstFn N v = false → constOnB (N.f v) st.restriction = some b → Compat sp v b →
      st.result[v] = some b := by
    intro v b hK hc hcompat
    by_cases hv : v ∈ st.cands
    · exact nomatch h.undec hch v hv (hc ▸ nofun)
    · obtain ⟨d, h1, h2⟩ := h.done v hK hv
      cases h1.symm.trans hc
      exact h2 hcompat
  refine ⟨h.ext, fun v hK b hc hcompat => (h.res v b (key v b hK hc hcompat)).2.1, h.least,
    fun v b => ⟨fun hres => ?_, fun ⟨hK, hc, hcompat⟩ => key v b hK hc hcompat⟩⟩
  obtain ⟨r1, r2, r3⟩ := h.res v b hres
  exact ⟨r1, r3, Compat.of_ext h.ext (Or.inr r2)⟩

theorem loop_final (N : Net n) (sp : Space n) :
    ∀ (fuel : Nat) (st : StrictSt n), SInv N sp st.restriction st.result st.cands → st.cands.length < fuel →
      Final N sp (strictLoop N fuel st)
  | 0, _, _, hlt => nomatch hlt
  | fuel+1, st, h, hlt => by
    have h1 : PassInv N sp st.cands.length (strictPass N st) [] :=
      PassInv.fold _ _ ⟨h, ⟨h.nodup, fun _ hv => hv⟩, fun _ _ hv _ => hv, Nat.le_refl _⟩
    simp only [strictLoop]
    split
    · next hch =>
      have := h1.meas
      rw [hch] at this
      exact loop_final N sp fuel _ h1.toSInv (Nat.lt_of_lt_of_le this (Nat.le_of_lt_succ hlt))
    · next hch => exact h1.final (Bool.eq_false_iff.2 hch)

end

/-- **C11 (`percStrict_spec`).** For every iteration order of the candidate set (a duplicate-free
    list of all variables), the loop ends in the least closed extension `r` of the given space, and
    reports exactly the variables with a non-constant update function that is constant on `r` and not
    given the opposite value. -/
theorem percStrict_spec (N : Net n) (sp : Space n) (order : List (Fin n)) (hnd : order.Nodup)
    (hall : ∀ v, v ∈ order) :
    ∃ r : Space n, sp.Ext r ∧ ClosedS N sp r ∧ (∀ q, sp.Ext q → ClosedS N sp q → r.Ext q) ∧
      ∀ v b, (percStrict N sp order)[v] = some b ↔
        (isConstFn N v = false ∧ constOnB (N.f v) r = some b ∧ Compat sp v b) := by
  have hnd0 : (order.filter fun v => !isConstFn N v).Nodup := hnd.filter _
  have h0 : SInv N sp sp top (order.filter fun v => !isConstFn N v) := by
    refine ⟨Space.Ext.refl sp, fun q hq _ => hq, fun v b hv => ?_, hnd0, fun v hv => ?_,
      fun v hK hv => ?_⟩
    · cases (Vector.getElem_replicate _).symm.trans hv
    · exact ⟨Bool.not_eq_true' _ ▸ (List.mem_filter.1 hv).2, rfl⟩
    · exact absurd (List.mem_filter.2 ⟨hall v, congrArg not hK⟩) hv
  have hF := loop_final N sp (n + 1) ⟨sp, top, _, true⟩ h0
    (Nat.lt_succ_of_le (Nat.le_trans (hnd0.length_le_of_subset fun v _ => List.mem_finRange v) (Nat.le_of_eq List.length_finRange)))
  exact ⟨_, hF.ext, hF.closed, hF.least, hF.result⟩

/-- **C11/C19 (`percStrict_order_independent`).** The result of strict percolation does not depend on
    the order in which the candidate set is iterated. -/
theorem percStrict_order_independent (N : Net n) (sp : Space n) (o1 o2 : List (Fin n))
    (h1 : o1.Nodup) (h2 : o2.Nodup) (a1 : ∀ v, v ∈ o1) (a2 : ∀ v, v ∈ o2) :
    percStrict N sp o1 = percStrict N sp o2 := by
  obtain ⟨r1, e1, c1, l1, s1⟩ := percStrict_spec N sp o1 h1 a1
  obtain ⟨r2, e2, c2, l2, s2⟩ := percStrict_spec N sp o2 h2 a2
  -- the least closed extension is unique, and the result is read off it
  cases Space.Ext.antisymm (l1 r2 e2 c2) (l2 r1 e1 c1)
  exact vec_ext fun i => Option.ext fun b => (s1 i b).trans (s2 i b).symm

end Balm.Impl
