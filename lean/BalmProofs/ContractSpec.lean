import Balm.Impl.SkipExcl
import BalmProofs.JudgeSpec
/-!
# The contract judges of C15 mean what they say

`judgeTrueComplete d start = none` (the verdict `OK`) implies that every node reachable from `start`
along the edges of the dump is expanded; `judgeFalseHasStub d start = none` implies that some
reachable node is unexpanded.
-/
namespace Balm.Impl

open Balm

variable {n : Nat}

theorem closedFrom_reach (d : Dump n) (start : Nat) (S : List Nat) (h : d.closedFrom start S = true)
    (m : Nat) (hr : DReach d start m) : m ∈ S := by
  simp only [Dump.closedFrom, Bool.and_eq_true, List.contains_iff_mem, List.all_eq_true] at h
  induction hr with
  | refl i => exact h.1
  | step hj _ ih => exact ih ⟨h.2 _ h.1 _ hj, h.2⟩

theorem judgeTrueComplete_sound (d : Dump n) (start : Nat) (h : judgeTrueComplete d start = none)
    (m : Nat) (hr : DReach d start m) : d.isExp m = true := by
  simp only [judgeTrueComplete, firstSome_cons, firstSome_nil, and_true, check_none] at h
  exact List.all_eq_true.1 h.2 m (closedFrom_reach d start _ h.1 m hr)

theorem DReach.tail {d : Dump n} {a b c : Nat} (hab : DReach d a b) (hc : c ∈ d.succ b) : DReach d a c := by
  induction hab with
  | refl i => exact DReach.step hc (DReach.refl _)
  | step hj _ ih => exact DReach.step hj (ih hc)

theorem reachIds_induction (pairs : List (Nat × Nat)) (P : Nat → Prop) (hP : ∀ e ∈ pairs, P e.1 → P e.2)
    (fuel : Nat) (fr seen : List Nat) (hf : ∀ x ∈ fr, P x) (hs : ∀ x ∈ seen, P x) :
    ∀ x ∈ reachIds pairs fuel fr seen, P x := by
  fun_induction reachIds pairs fuel fr seen with
  | case1 | case2 => exact hs
  | case3 fuel y fr seen new ih =>
    have hnew : ∀ z ∈ new, P z := by
      intro z hz
      obtain ⟨e, he, rfl⟩ := List.mem_map.1 (List.mem_eraseDups.1 (List.mem_filter.1 hz).1)
      obtain ⟨he1, he2⟩ := List.mem_filter.1 he
      exact hP e he1 (beq_iff_eq.1 he2 ▸ hf y List.mem_cons_self)
    exact ih (List.forall_mem_append.2 ⟨fun z hz => hf z (.tail _ hz), hnew⟩) (List.forall_mem_append.2 ⟨hs, hnew⟩)

theorem judgeFalseHasStub_sound (d : Dump n) (start : Nat) (h : judgeFalseHasStub d start = none) :
    ∃ m, DReach d start m ∧ d.isExp m = false := by
  obtain ⟨m, hm, hexp⟩ := List.any_eq_true.1 ((check_none _ _).1 h)
  have hstart : ∀ x ∈ [start], DReach d start x := fun x hx => List.mem_singleton.1 hx ▸ DReach.refl _
  exact ⟨m, reachIds_induction d.pairs (DReach d start) (fun e he h => h.tail ((d.mem_succ _ _).2 he)) _ _ _
    hstart hstart m hm, by simpa using hexp⟩

end Balm.Impl
