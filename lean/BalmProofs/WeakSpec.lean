import BalmProofs.JudgeSpec
/-!
# The weak-invariant judge (C03, C05, C15)

`judgeWeak` is evaluated on dumps of real diagrams that were built with shortcuts (source-variable valuations
of block expansion, skip nodes, attached sub-diagrams of SCC expansion).  An `OK` is equivalent to the clauses below for
the dumped diagram (`judgeWeak_iff`); they are the weak invariant `Skip.InvWeak` said of a dump, and once no node is
unexpanded they make the successor-free nodes exactly the minimal trap spaces (`weak_complete_leaves`).
-/
namespace Balm.Impl

open Balm

variable {n : Nat}

structure WeakSpec (c : Ctx n) (d : Dump n) : Prop where
  root : d.nodes.length > 0 ∧ d.space 0 = c.root
  distinct : ((d.nodes.map (·.space)).eraseDups).length = d.nodes.length
  node : ∀ i, i < d.nodes.length → TrapSpace c.N (d.node i).space ∧ perc c.N (d.node i).space = (d.node i).space
  stub : ∀ i, i < d.nodes.length → (d.node i).expanded = false → d.outs i = []
  targets : ∀ i, i < d.nodes.length → ∀ e ∈ d.outs i, e.2.1 < d.nodes.length
  inside : ∀ i, i < d.nodes.length → (d.node i).expanded = true → ∀ e ∈ d.outs i,
    (d.space e.2.1).le (d.node i).space ∧ d.space e.2.1 ≠ (d.node i).space
  cover : ∀ i, i < d.nodes.length → (d.node i).expanded = true → ∀ m ∈ minTrapsIn c.N c.root,
    m.le (d.node i).space → m = (d.node i).space ∨ ∃ e ∈ d.outs i, m.le (d.space e.2.1)
  depth : ∀ i, i < d.nodes.length → (d.node i).depth = longestTo d.pairs d.nodes.length i

/-- the clause `judgeWeak` checks beyond `WeakSpec` -/
def NoSelfLoop (d : Dump n) : Prop := ∀ i, i < d.nodes.length → ∀ e ∈ d.outs i, e.2.1 ≠ i

theorem judgeWeak_iff (c : Ctx n) (d : Dump n) : judgeWeak c d = none ↔ WeakSpec c d ∧ NoSelfLoop d := by
  -- the two passes of `judgeStrict_iff`
  simp only [judgeWeak, firstSome_nodes_none, firstSome_cons, firstSome_nil, and_true, forall_and]
  simp only [chkRoot, chkDistinct, chkTrap, chkPerc, chkTargets, chkKindWeak, chkDepth, check_none,
    firstSome_cons, firstSome_nil, and_true, ite_eq_iff', if_true, Bool.and_eq_true, Bool.or_eq_true,
    Bool.not_eq_true', Bool.not_eq_false, decide_eq_true_eq, beq_iff_eq, bne_iff_ne,
    List.all_eq_true, List.any_eq_true, List.mem_filter, and_imp, List.isEmpty_iff, isTrapB_iff, Space.leB_iff]
  constructor
  · rintro ⟨⟨hr, hd⟩, ht, hp, htg, hk, hdp⟩
    -- `hk i hi`, from `chkKindWeak`: a stub has no out-edges; an expanded node has `inside` and `cover`
    exact ⟨⟨hr, hd, fun i hi => ⟨ht i hi, hp i hi⟩, fun i hi => (hk i hi).1, fun i hi e he => (htg i hi e he).1,
      fun i hi he => ((hk i hi).2 he).1, fun i hi he => ((hk i hi).2 he).2, hdp⟩, fun i hi e he => (htg i hi e he).2⟩
  · rintro ⟨hw, hl⟩
    exact ⟨⟨hw.root, hw.distinct⟩, fun i hi => (hw.node i hi).1, fun i hi => (hw.node i hi).2,
      fun i hi e he => ⟨hw.targets i hi e he, hl i hi e he⟩,
      fun i hi => ⟨hw.stub i hi, fun he => ⟨hw.inside i hi he, hw.cover i hi he⟩⟩, hw.depth⟩

/-- **C03/C05/C15 (verified checker)** for diagrams built with shortcuts -/
theorem judgeWeak_sound (c : Ctx n) (d : Dump n) (h : judgeWeak c d = none) : WeakSpec c d :=
  ((judgeWeak_iff c d).1 h).1

theorem exists_mem_minTrapsIn_le (N : Net n) (root p : Space n) (hp : TrapSpace N p) (hle : p.le root) :
    ∃ m ∈ minTrapsIn N root, m.le p := by
  obtain ⟨m, hm, hmp, hmin⟩ := exists_minimal_below Space.le Space.le_refl Space.le_trans free free_lt_of_le_ne
    (fun q => TrapSpace N q ∧ q.le root) p ⟨hp, hle⟩
  exact ⟨m, (mem_minTrapsIn N root m).2 ⟨hm, fun q hq hqr => hmin q ⟨hq, hqr⟩⟩, hmp⟩

/- `exists_mem_minTrapsIn_le` with a fuel `k` that is not used -/
theorem exists_min_inside (N : Net n) (root : Space n) :
    ∀ (k : Nat) (p : Space n), free p ≤ k → TrapSpace N p → p.le root → ∃ m ∈ minTrapsIn N root, m.le p :=
  fun _ p _ => exists_mem_minTrapsIn_le N root p

/-- **C03 from the weak invariant.** If the dump of a real diagram passes `judgeWeak` and has no unexpanded node,
    its expanded successor-free nodes (`minimal_trap_spaces()`) are exactly the minimal trap spaces of the network -
    whatever mixture of strategies, shortcuts and skip nodes produced it. -/
theorem weak_complete_leaves (c : Ctx n) (d : Dump n) (hroot : c.root = perc c.N top) (hw : WeakSpec c d)
    (hall : ∀ i, i < d.nodes.length → (d.node i).expanded = true) :
    ∀ m, m ∈ d.leaves ↔ m ∈ minTrapsIn c.N c.root := by
  have hin : ∀ i, i < d.nodes.length → (d.node i).space.le c.root := fun i hi => by
    have := perc_mono c.N (hw.node i hi).1 (q := top) (Space.le_top _)
    rwa [(hw.node i hi).2, ← hroot] at this
  intro m
  rw [Dump.mem_leaves]
  constructor
  · rintro ⟨i, hi, -, houts, rfl⟩
    obtain ⟨m', hm', hle'⟩ := exists_mem_minTrapsIn_le c.N c.root _ (hw.node i hi).1 (hin i hi)
    rcases hw.cover i hi (hall i hi) m' hm' hle' with h | ⟨e, he, _⟩
    · exact h ▸ hm'
    · rw [houts] at he; cases he
  · intro hm
    have hmspec := (mem_minTrapsIn c.N c.root m).1 hm
    -- the lowest node above `m` is `m`: a successor above `m` would be lower
    obtain ⟨j, ⟨hj, hle⟩, hlow⟩ := exists_lowest (fun i => free (d.node i).space)
      (fun i => i < d.nodes.length ∧ m.le (d.node i).space) 0
      ⟨hw.root.1, by rw [← Dump.space_eq_node, hw.root.2]; exact hmspec.1.2⟩
    obtain rfl := (hw.cover j hj (hall j hj) m hm hle).resolve_right fun ⟨e, he, hme⟩ => by
      obtain ⟨h1, h2⟩ := hw.inside j hj (hall j hj) e he
      rw [Dump.space_eq_node] at h1 h2 hme
      exact Nat.not_lt.2 (hlow e.2.1 ⟨hw.targets j hj e he, hme⟩) (free_lt_of_le_ne h1 h2)
    refine ⟨j, hj, hall j hj, List.eq_nil_iff_forall_not_mem.2 fun e he => ?_, rfl⟩
    -- a successor would be a trap space strictly inside a minimal one
    obtain ⟨h1, h2⟩ := hw.inside j hj (hall j hj) e he
    rw [Dump.space_eq_node] at h1 h2
    exact h2 (hmspec.2 _ (hw.node _ (hw.targets j hj e he)).1 (Space.le_trans h1 hmspec.1.2) h1)

end Balm.Impl
