import BalmProofs.JudgeSpec
/-!
# `is_subgraph` computes its specification (C20)

`isSubgraph` mirrors the code of `SuccessionDiagram.is_subgraph` (look the node up in the other
diagram by its key, compare successor *ids*); `subgraphSpec` is the statement a user relies on (every
expanded node of `a` is a node of `b` and every edge of `a`, as a pair of spaces, is an edge of `b`).
They agree whenever `b` is a well-formed diagram: its node spaces are pairwise distinct, unexpanded
nodes have no out-edges, and edges connect existing nodes.  (`judgeStrict`, run on the real dump in the
same run, checks distinctness, the stubs and the *targets* of edges; an edge whose source is not a node it
never looks at, and no theorem derives these three hypotheses from `StrictSpec`.)
-/
namespace Balm.Impl

open Balm

variable {n : Nat}

theorem Dump.space_of_lt (d : Dump n) {i : Nat} (h : i < d.nodes.length) :
    d.space i = (d.nodes.map (·.space))[i]'(by simpa using h) := by
  simp [Dump.space, h]

theorem Dump.find_some (d : Dump n) (p : Space n) (oi : Nat) (h : d.find p = some oi) :
    oi < d.nodes.length ∧ d.space oi = p ∧ p ∈ d.nodes.map (·.space) := by
  simp only [Dump.find, Option.ite_none_right_eq_some, Option.some.injEq] at h
  obtain ⟨hlt, rfl⟩ := h
  have hmem := List.idxOf_lt_length_iff.1 ((List.length_map (as := d.nodes) _).symm ▸ hlt)
  exact ⟨hlt, (Dump.space_of_lt d hlt).trans (List.getElem_idxOf _), hmem⟩

theorem Dump.find_none (d : Dump n) (p : Space n) (h : d.find p = none) : p ∉ d.nodes.map (·.space) := by
  simpa only [Dump.find, ite_eq_right_iff, reduceCtorEq, imp_false, ← List.length_map (as := d.nodes) (·.space),
    List.idxOf_lt_length_iff] using h

theorem Dump.find_space (d : Dump n) (hd : (d.nodes.map (·.space)).Nodup) {i : Nat} (hi : i < d.nodes.length) :
    d.find (d.space i) = some i := by
  simp only [Dump.find, Dump.space_of_lt d hi, hd.idxOf_getElem, hi, if_true]

theorem isSubgraph_eq_spec (a b : Dump n)
    (hdist : (b.nodes.map (·.space)).Nodup)
    (hstub : ∀ i, b.isExp i = false → b.succ i = [])
    (hedge : ∀ e ∈ b.pairs, e.1 < b.nodes.length ∧ e.2 < b.nodes.length) :
    isSubgraph a b = subgraphSpec a b := by
  -- a stub has no successors, so the guard on `b.isExp` is redundant
  have hs : ∀ oi, (if b.isExp oi then b.succ oi else []) = b.succ oi := fun oi => by
    cases h : b.isExp oi <;> simp [hstub, h]
  -- an edge of `b` between two spaces, found through the ids of the spaces
  have edge : ∀ oi q, oi < b.nodes.length →
      (match b.find q with
        | none => false
        | some os => (b.succ oi).contains os) =
      b.pairs.any fun e => b.space e.1 == b.space oi && b.space e.2 == q := by
    intro oi q hoi
    rw [Bool.eq_iff_iff]
    simp only [List.any_eq_true, Bool.and_eq_true, beq_iff_eq]
    constructor
    · intro h
      split at h
      · cases h
      · next os hos => exact ⟨(oi, os), (b.mem_succ oi os).1 (List.contains_iff_mem.1 h), rfl, (b.find_some q os hos).2.1⟩
    · rintro ⟨e, he, h1, rfl⟩
      obtain rfl : e.1 = oi :=
        Option.some.inj ((b.find_space hdist (hedge e he).1).symm.trans (h1 ▸ b.find_space hdist hoi))
      rw [b.find_space hdist (hedge e he).2]
      exact List.contains_iff_mem.2 ((b.mem_succ _ _).2 he)
  unfold isSubgraph subgraphSpec
  refine congrArg _ (funext fun i => ?_)
  cases a.isExp i
  · rfl
  · simp only [Bool.not_true, Bool.false_or, hs]
    cases hf : b.find (a.space i) with
    | none => exact (Bool.and_eq_false_imp.2 fun h => absurd (List.contains_iff_mem.1 h) (b.find_none _ hf)).symm
    | some oi =>
      obtain ⟨hoi, hsp, hmem⟩ := b.find_some _ oi hf
      rw [List.contains_iff_mem.2 hmem, Bool.true_and, ← hsp]
      exact congrArg ((a.succ i).all ·) (funext fun s => edge oi _ hoi)
end Balm.Impl
