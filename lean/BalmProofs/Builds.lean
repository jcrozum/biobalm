import BalmProofs.Expands
import Balm.Impl.Scc
/-!
# What all operations of the model do to the diagram

The non-plain operations - `skip_to_minimal`, `skip_remaining`, block expansion with source shortcuts and
motif-avoidance verdicts, source-SCC expansion with its recursive component diagrams - change the diagram only through
five primitives: `expandNode`, `ensureChild` (node of a percolated space, optionally an edge), `setExp`, `addEdge` and
marking a node as skip node.  `Prims c P` says that `P` survives each of them, `Builds c d d'` that `d'` lies in every
such `P` that holds of `d`; each operation is walked once (`…_builds`) by a term that mirrors its body.  Instances:
`Grows d₀` (`all_ops_grow`) and "every node space is closed under percolation" (`all_ops_perc_closed`).
-/
namespace Balm.Props.C04

open Balm Balm.Impl Balm.SDm

variable {n : Nat}

structure Prims (c : Ctx n) (P : Diag n → Prop) : Prop where
  expand : ∀ d i, P d → P (expandNode c d i).1
  child : ∀ d parent m, P d → P (ensureChild c d parent m).1
  setExp : ∀ d i, P d → P (setExp d i)
  addEdge : ∀ d a b m, P d → P (addEdge d a b m)
  skipped : ∀ d l, P d → P { d with skipped := l }

variable {c : Ctx n} {P : Diag n → Prop}

structure Builds (c : Ctx n) (d d' : Diag n) : Prop where
  pres : ∀ P, Prims c P → P d → P d'

namespace Builds

variable {d d' : Diag n}

theorem refl (d : Diag n) : Builds c d d := ⟨fun _ _ h => h⟩

theorem trans {d₁ d₂ d₃ : Diag n} (h₁ : Builds c d₁ d₂) (h₂ : Builds c d₂ d₃) : Builds c d₁ d₃ :=
  ⟨fun P hp h => h₂.pres P hp (h₁.pres P hp h)⟩

theorem child (h : Builds c d d') (parent : Option Nat) (m : Space n) : Builds c d (ensureChild c d' parent m).1 :=
  ⟨fun P hp h0 => hp.child _ parent m (h.pres P hp h0)⟩

theorem setExp (h : Builds c d d') (i : Nat) : Builds c d (setExp d' i) :=
  ⟨fun P hp h0 => hp.setExp _ i (h.pres P hp h0)⟩

theorem addEdge (h : Builds c d d') (a b : Nat) (m : Space n) : Builds c d (addEdge d' a b m) :=
  ⟨fun P hp h0 => hp.addEdge _ a b m (h.pres P hp h0)⟩

theorem skipped (h : Builds c d d') (l : List Nat) : Builds c d { d' with skipped := l } :=
  ⟨fun P hp h0 => hp.skipped _ l (h.pres P hp h0)⟩

/-- `g` reads the diagram off the accumulator -/
theorem foldl {α β : Type} {f : β → α → β} {b : β} (g : β → Diag n) (l : List α)
    (hf : ∀ b a, Builds c d (g b) → Builds c d (g (f b a))) (h : Builds c d (g b)) : Builds c d (g (l.foldl f b)) :=
  List.foldlRecOn l f (motive := fun b => Builds c d (g b)) h fun b h a _ => hf b a h

/-- instead of `split`, which is slow to check on the step of a fold -/
theorem ite {β : Type} (g : β → Diag n) {p : Prop} [Decidable p] {x y : β} (hx : Builds c d (g x))
    (hy : Builds c d (g y)) : Builds c d (g (if p then x else y)) := by
  split <;> assumption

/-- for a branch under `let (d', okk) := expandNode c d i` -/
theorem of_expand {d'' : Diag n} {i : Nat} {b : Bool} (hx : expandNode c d i = (d', b)) (h : Builds c d' d'') :
    Builds c d d'' :=
  ⟨fun P hp h0 => h.pres P hp (hx ▸ hp.expand d i h0 :)⟩

end Builds

theorem Expands.builds {d d' : Diag n} (h : Expands c d d') : Builds c d d' := ⟨fun P hp => h.pres P hp.expand⟩

theorem skipToMinimalWith_builds (d : Diag n) (i : Nat) (mins : List (Space n)) :
    Builds c d (skipToMinimalWith c d i mins).1 := by
  fun_cases skipToMinimalWith c d i mins
  · exact .refl d
  · exact (Builds.refl d).setExp i
  · exact (((Builds.refl d).foldl id mins fun _ m h => (h.child _ m).setExp _).setExp _).skipped _

theorem makeSkipNode_builds (d : Diag n) (i : Nat) (allMins : List (Space n)) :
    Builds c d (makeSkipNode c d i allMins) := by
  fun_cases makeSkipNode c d i allMins
  · exact .refl d
  · exact (((Builds.refl d).foldl id allMins fun _ m h => .ite id ((h.child _ m).setExp _) h).setExp _).skipped _

theorem makeSkipNode_pres (hp : Prims c P) (d : Diag n) (i : Nat) (allMins : List (Space n)) (h : P d) :
    P (makeSkipNode c d i allMins) :=
  (makeSkipNode_builds d i allMins).pres P hp h

@[local grind! .]
theorem blockLevelX_builds (cfg : BlockCfg) (before cur : List Nat) (d : Diag n) (next : List Nat) (clean : List Bool) :
    Builds c d (blockLevelX c cfg before cur d next clean).1 := by
  fun_induction blockLevelX c cfg before cur d next clean
  case case7 d' ids hfold ih =>  -- the source shortcut: a child for every valuation of the source variables
    obtain rfl : _ = d' := congrArg Prod.fst hfold
    refine (Builds.setExp ?_ _).trans ih
    exact Builds.foldl Prod.fst _ (fun _ _ h => h.child ..) (.refl _)
  -- every other branch returns the diagram or hands it on, as it is or after one `expandNode`
  all_goals solve_by_elim [Builds.refl, Builds.of_expand]

/- the recursive walks: every branch returns the diagram or hands it to a call walked before -/
attribute [local grind .] Builds.refl
attribute [local grind →] Builds.trans

theorem blockLoopX_builds (cfg : BlockCfg) (fuel : Nat) (d : Diag n) (cur before : List Nat) (clean : List Bool) :
    Builds c d (blockLoopX c cfg fuel d cur before clean).1 := by
  fun_induction blockLoopX c cfg fuel d cur before clean <;> grind

theorem expandBlockX_pres (hp : Prims c P) (d : Diag n) (cfg : BlockCfg) (clean : List Bool) (h : P d) :
    P (expandBlockX c d cfg clean).1 :=
  (blockLoopX_builds cfg _ d _ _ clean).pres P hp h

theorem skipRemainingWith_builds (d : Diag n) (mins : List (Space n)) :
    Builds c d (skipRemainingWith c d mins).1 := by
  fun_cases skipRemainingWith c d mins
  next d1 ids heq =>
  obtain rfl : _ = d1 := congrArg Prod.fst heq
  -- the edges to the minimal trap spaces inside a stub are appended one by one
  exact Builds.foldl Prod.fst _ (fun acc i h => .ite Prod.fst h
      (((h.foldl (fun co => { acc.1 with core := co }) ids fun co im h =>
        .ite (fun co => { acc.1 with core := co }) (h.addEdge i im.1 im.2) h).setExp i).skipped _)) <|
    (Builds.refl d).foldl Prod.fst mins fun _ m h => (h.child none m).setExp _

theorem sccAttach_builds (d dsub : Diag n) (comp : List (Fin n)) (attachAt : Nat) :
    Builds c d (sccAttach c d dsub comp attachAt).1 := by
  fun_cases sccAttach c d dsub comp attachAt
  · exact .refl d
  · refine (Builds.foldl id _ (fun _ a h => h.foldl id _ fun _ b h => ?_) <|
      (Builds.refl d).foldl Prod.fst _ fun acc k h => ?_).setExp _
    · split
      · exact h.addEdge ..
      · exact h
    · exact .ite Prod.fst h (.ite id (h.child ..) ((h.child ..).setExp _))

theorem normalStep_builds (node : Nat) (next : List Nat) (d : Diag n) :
    Builds c d (normalStep c node next d).1 := by
  fun_cases normalStep c node next d <;> exact (Expands.node d node).builds

theorem sccAttachAll_builds (sub : Ctx n → Diag n × Outcome) (p : Space n) (node : Nat)
    (comps : List (List (Fin n))) (d : Diag n) : Builds c d (sccAttachAll sub c p node comps d).1 := by
  refine (Builds.refl d).foldl Prod.fst comps fun acc comp h => .ite Prod.fst h ?_
  dsimp only
  split
  · exact h
  · exact Builds.foldl Prod.fst _ (fun _ _ h => h.trans (sccAttach_builds ..)) h

@[local grind! .]
theorem sccNode_builds (sub : Ctx n → Diag n × Outcome) (rank : Fin n → Nat) (d : Diag n)
    (node : Nat) (next : List Nat) : Builds c d (sccNode sub c rank d node next).1 := by
  fun_cases sccNode sub c rank d node next
  · exact normalStep_builds ..
  · exact normalStep_builds ..
  · exact sccAttachAll_builds ..
  · exact (sccAttachAll_builds ..).trans (normalStep_builds ..)
  · exact sccAttachAll_builds ..

@[local grind! .]
theorem sccLevel_builds (sub : Ctx n → Diag n × Outcome) (rank : Fin n → Nat) (cur : List Nat) (d : Diag n)
    (next : List Nat) : Builds c d (sccLevel sub c rank cur d next).1 := by
  fun_induction sccLevel sub c rank cur d next <;> grind

@[local grind! .]
theorem sccLoop_builds (sub : Ctx n → Diag n × Outcome) (rank : Fin n → Nat) (fuel : Nat) (d : Diag n)
    (cur : List Nat) : Builds c d (sccLoop sub c rank fuel d cur).1 := by
  fun_induction sccLoop sub c rank fuel d cur <;> grind

theorem expandScc_builds (rank : Fin n → Nat) (fuel : Nat) (d : Diag n) :
    Builds c d (expandScc rank fuel c d).1 := by
  fun_cases expandScc rank fuel c d
  · exact .refl d
  · exact sccLoop_builds ..
  · exact .refl d
  · refine (Builds.setExp ?_ 0).trans (sccLoop_builds ..)
    exact Builds.foldl Prod.fst _ (fun _ _ h => h.child ..) (.refl d)

theorem expandScc_pres (hp : Prims c P) (rank : Fin n → Nat) (fuel : Nat) (d : Diag n) (h : P d) :
    P (expandScc rank fuel c d).1 :=
  (expandScc_builds rank fuel d).pres P hp h

theorem prims_grows (c : Ctx n) (d₀ : Diag n) : Prims c (Grows d₀) where
  expand := fun d i h => h.trans (expandNode_grows c d i)
  child := fun d parent m h => h.trans <| by
    have hg := ensureNode_le d.core (perc c.N m)
    unfold ensureChild
    cases parent with
    | none => exact .of_core hg
    | some i => exact .of_core ⟨hg.nodes, hg.edges.trans (List.prefix_append _ _), hg.exp⟩
  setExp := fun d i h => h.trans (.of_core (SD.le_setExp _ i))
  addEdge := fun d a b m h => h.trans ⟨List.prefix_refl _, List.prefix_append _ _, fun _ h => h⟩
  skipped := fun _ _ h => ⟨h.nodes, h.edges, h.exp⟩

theorem Builds.grows {d d' : Diag n} (h : Builds c d d') : Grows d d' := h.pres _ (prims_grows c d) (.refl d)

/-- **no operation of any strategy removes anything** (C03, C05, C15, C16): skipping, block expansion with every flag combination
    and every transcript of motif-avoidance verdicts, and source-SCC expansion only add to the diagram they start from -/
theorem all_ops_grow (c : Ctx n) (d : Diag n) :
    (∀ i mins, Grows d (skipToMinimalWith c d i mins).1) ∧
    (∀ mins, Grows d (skipRemainingWith c d mins).1) ∧
    (∀ cfg clean, Grows d (expandBlockX c d cfg clean).1) ∧
    (∀ rank fuel, Grows d (expandScc rank fuel c d).1) :=
  ⟨fun i mins => (skipToMinimalWith_builds d i mins).grows,
   fun mins => (skipRemainingWith_builds d mins).grows,
   fun cfg clean => (blockLoopX_builds cfg _ d _ _ clean).grows,
   fun rank fuel => (expandScc_builds rank fuel d).grows⟩

def PercClosed (c : Ctx n) (d : Diag n) : Prop := ∀ p ∈ d.core.nodes, perc c.N p = p

theorem prims_percClosed (c : Ctx n) : Prims c (PercClosed c) where
  expand := fun d i h =>
    expandOneLimited_cases (P := fun s => ∀ q ∈ s.nodes, perc c.N q = q) c.env c.motifLimit d.core i h fun q hq => by
      obtain hq | ⟨_, m, -, -, rfl⟩ := mem_expandOne_nodes hq
      · exact h q hq
      · exact perc_idem c.N m
  child := by
    intro d parent m h q hq
    have hq : q ∈ (ensureNode d.core (perc c.N m)).1.nodes := by cases parent <;> exact hq
    obtain hq | rfl := mem_ensureNode_nodes hq
    · exact h q hq
    · exact perc_idem c.N m
  setExp := fun _ _ h => h
  addEdge := fun _ _ _ _ h => h
  skipped := fun _ _ h => h

/-- **every node any operation of any strategy creates is closed under percolation** (C02, C03, C05) -/
theorem all_ops_perc_closed (c : Ctx n) (d : Diag n) (h : PercClosed c d) :
    (∀ op, PercClosed c (runOp c d op)) ∧
    (∀ i mins, PercClosed c (skipToMinimalWith c d i mins).1) ∧
    (∀ mins, PercClosed c (skipRemainingWith c d mins).1) ∧
    (∀ cfg clean, PercClosed c (expandBlockX c d cfg clean).1) ∧
    (∀ rank fuel, PercClosed c (expandScc rank fuel c d).1) :=
  have hp := prims_percClosed c
  ⟨fun op => runOp_pres c _ hp.expand d op h,
   fun i mins => (skipToMinimalWith_builds d i mins).pres _ hp h,
   fun mins => (skipRemainingWith_builds d mins).pres _ hp h,
   fun cfg clean => (blockLoopX_builds cfg _ d _ _ clean).pres _ hp h,
   fun rank fuel => (expandScc_builds rank fuel d).pres _ hp h⟩

theorem init_percClosed (N : Net n) (L : Nat) : PercClosed (Ctx.mk' N L) (initDiag (Ctx.mk' N L)) := by
  intro p hp
  simp only [initDiag, SDm.init, List.mem_singleton] at hp
  subst hp
  exact perc_idem N _

end Balm.Props.C04
