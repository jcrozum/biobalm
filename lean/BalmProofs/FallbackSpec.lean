import BalmProofs.JudgeSpec
import Balm.Impl.SymLoop
/-!
# The symbolic fallback computes the own attractors of a node (C12)

`fallback_eq_own`: for every network, trap space `p` and family of successor trap spaces, the attractors inside the
region the fallback searches - the states of `p` outside the successor spaces from which no successor space can be
reached - are exactly the attractors inside `p` that are inside no successor space (`ownAttrs`, the set the default
method reports).  So "fallback = default" is a theorem about the two specifications; the tie compares the real
fallback with `fallbackAttrs` and the real default method with the attractor oracle.
-/
namespace Balm.Impl

open Balm

variable {n : Nat}

theorem mem_fallbackRegion (N : Net n) (p : Space n) (succ : List (Space n)) (s : State n) :
    s ∈ fallbackRegion N p succ ↔ p.Mem s ∧ ∀ t, Reach N s t → ∀ q ∈ succ, ¬ q.Mem t := by
  simp only [fallbackRegion, List.mem_filter, mem_statesOf, Bool.and_eq_true, Bool.not_eq_true',
    List.any_eq_false, List.any_eq_true, not_exists, not_and, mem_reachSet, Space.memB_iff]
  -- the first clause of the filter is the second at `t = s`
  exact ⟨fun h => ⟨h.1, h.2.2⟩, fun h => ⟨h.1, h.2 s (Reach.refl s), h.2⟩⟩

/-- **C12: the fallback's region holds exactly the own attractors.** -/
theorem fallback_eq_own (N : Net n) (p : Space n) (succ : List (Space n)) (hsucc : ∀ q ∈ succ, TrapSpace N q)
    (A : List (State n)) :
    A ∈ fallbackAttrs N p succ ↔ A ∈ ownAttrs (attractors N) p succ := by
  unfold fallbackAttrs
  rw [List.mem_filter, mem_ownAttrs]
  simp only [List.all_eq_true, List.contains_iff_mem, mem_fallbackRegion]
  refine and_congr_right fun hA => ?_
  have hattr := attractors_sound N A hA
  constructor
  · intro h
    obtain ⟨s, hs⟩ := hattr.1
    exact ⟨fun s hs => (h s hs).1, fun q hq hall => (h s hs).2 s (Reach.refl s) q hq (hall s hs)⟩
  · rintro ⟨hin, hnot⟩ s hs
    exact ⟨hin s hs, fun t ht q hq hqt => hnot q hq fun u =>
      hattr.subset_of_meets (X := q.Mem) (hsucc q hq) ((hattr.2 s hs t).2 ht) hqt⟩

end Balm.Impl
