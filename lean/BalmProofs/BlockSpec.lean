import Balm.Impl.Block
import Balm.Src
import BalmProofs.JudgeSpec
/-!
# The source shortcut of block expansion is a legitimate way to give a node successors (C03, C14)

`expand_block(optimize_source_nodes=True)` gives a node whose percolated network has source variables
(identity update functions) the `2^k` valuations of those variables as successors instead of its
stable motifs.  `valuation_trap`: each valuation is a trap space inside the node; `source_valuations_cover`:
every minimal trap space inside the node lies inside one of them (a minimal trap space fixes every
source variable).  This is what `Skip.attach_weak` asks of a rule that gives a node successors, said of the
valuations themselves: the nodes the model creates are their percolations (`ensureChild`), and no theorem here
carries the two facts across `perc` or says that a valuation lies strictly inside the node.
-/
namespace Balm.Impl

open Balm

variable {n : Nat}

section
open FinIdx

theorem mem_sourcesIn (N : Net n) (p : Space n) (i : Fin n) :
    i ∈ sourcesIn N p ↔ p[i] = none ∧ ∀ s, p.Mem s → N.f i s = s[i] := by
  simp only [sourcesIn, List.mem_filter, List.mem_finRange, true_and, Bool.and_eq_true, Option.isNone_iff_eq_none,
    List.all_eq_true, mem_statesOf, beq_iff_eq]

theorem mem_valuations (q : Space n) : ∀ (vs : List (Fin n)) (p : Space n),
    q ∈ valuations p vs ↔ (∀ j, j ∉ vs → q[j] = p[j]) ∧ ∀ v ∈ vs, (q[v]).isSome = true
  | [], p => by
    simp only [valuations, List.mem_singleton, List.not_mem_nil, not_false_eq_true, true_implies,
      false_implies, implies_true, and_true]
    exact ⟨fun h j => h ▸ rfl, vec_ext⟩
  | v :: vs, p => by
    rw [valuations, List.mem_append, ← Bool.exists_bool (p := fun b => q ∈ valuations (p.set v (some b)) vs)]
    simp only [mem_valuations q vs]
    constructor
    · rintro ⟨b, h1, h2⟩
      refine ⟨fun j hj => ?_, fun w hw => ?_⟩
      · rw [h1 j fun h => hj (.tail _ h), set_get, if_neg fun e => hj (List.mem_cons.2 (.inl e))]
      · by_cases hv : w ∈ vs
        · exact h2 w hv
        · obtain rfl : w = v := by simpa [hv] using hw
          rw [h1 w hv, set_get, if_pos rfl]; rfl
    · rintro ⟨h1, h2⟩
      obtain ⟨b, hb⟩ := Option.isSome_iff_exists.1 (h2 v (.head _))
      refine ⟨b, fun j hj => ?_, fun w hw => h2 w (.tail _ hw)⟩
      rw [set_get]; split
      · next e => rw [e, hb]
      · next e => exact h1 j (by simp [e, hj])

end

theorem valuation_trap (N : Net n) (p : Space n) (hp : TrapSpace N p) (q : Space n)
    (hq : q ∈ valuations p (sourcesIn N p)) : TrapSpace N q ∧ q.le p := by
  obtain ⟨h1, -⟩ := (mem_valuations q _ p).1 hq
  have hle : q.le p := fun j c hj => by
    rw [h1 j fun e => by rw [((mem_sourcesIn N p j).1 e).1] at hj; cases hj]; exact hj
  refine ⟨trap_fix_inputs N hp hle fun j b hj => ?_, hle⟩
  by_cases hjs : j ∈ sourcesIn N p
  · exact Or.inr ((mem_sourcesIn N p j).1 hjs).2
  · exact Or.inl (h1 j hjs ▸ hj)

theorem source_valuations_cover (N : Net n) (p m : Space n) (hm : TrapSpace N m) (hle : m.le p)
    (hmin : ∀ q, TrapSpace N q → q.le m → q = m) : ∃ q ∈ valuations p (sourcesIn N p), m.le q := by
  open FinIdx in
  -- `m` fixes every source variable, so `p` with the values of `m` on the source variables is a valuation
  refine ⟨.ofFn fun j => if j ∈ sourcesIn N p then m[j] else p[j], (mem_valuations _ _ p).2 ⟨fun j hj => ?_, fun v hv => ?_⟩,
    fun j c hj => ?_⟩
  · rw [ofFn_get, if_neg hj]
  · rw [ofFn_get, if_pos hv]
    exact min_fixes_input N hm hmin fun s hs => ((mem_sourcesIn N p v).1 hv).2 s (Space.Mem.of_ext hle hs)
  · rw [ofFn_get] at hj
    split at hj
    · exact hj
    · exact hle j c hj

end Balm.Impl
