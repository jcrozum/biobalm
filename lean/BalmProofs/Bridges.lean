import BalmProofs.SymLoopSpec
import BalmProofs.AttrTest
/-!
# Bridges between the specifications of the attractor search (C01, C05, C12)

The candidate loop of `compute_attractors_symbolic` excludes the *stable motifs* on the outgoing edges of a node
(`OwnA … (KOf p motifs)`: the attractor meets no motif), while the partition theorem of C01 (`concrete_exists_unique_own`)
and the attractor oracle of the harness speak of the *successor spaces* (the attractor is not inside `perc m`);
`own_motif_iff_succ` identifies the two.  The abstract saturation loop `AttrTest`, instantiated with the asynchronous graph
of a network, gives at its two exits the verdict of the specification-level `Impl.symTest` that the candidate loop model
uses; what ties the abstract loop to the Python is the SYMLOOP replay of the loop's verdicts and sets.
-/
namespace Balm.Impl

open Balm

variable {n : Nat}

/-- **C01/C05/C12 bridge.** For an attractor `A` and a stable motif `m` (a trap space):
    `A` meets `m`  ⇔  `A ⊆ m`  ⇔  `A ⊆ perc m` (the successor's space). -/
theorem own_motif_iff_succ (N : Net n) (A : State n → Prop) (hA : IsAttr N A) (m : Space n) (hm : TrapSpace N m) :
    (∃ s, A s ∧ m.Mem s) ↔ ∀ s, A s → (perc N m).Mem s := by
  constructor
  · rintro ⟨s, hs, hms⟩
    exact attr_in_percIter N (constOnOf N) n m hm A hA fun t => hA.subset_of_meets (X := m.Mem) hm hs hms
  · intro h
    obtain ⟨s, hs⟩ := hA.1
    exact ⟨s, hs, Space.Mem.of_ext (perc_le N m) (h s hs)⟩

/-- **C01/C05/C12 bridge.** The own attractors of the candidate loop (`OwnA`, stated with motifs) are the attractors
    inside the node that lie inside no successor space. -/
theorem ownA_iff_succ (N : Net n) (p : Space n) (motifs : List (Space n)) (hm : ∀ m ∈ motifs, TrapSpace N m)
    (A : State n → Prop) (hA : IsAttr N A) (hAp : ∀ s, A s → p.Mem s) :
    OwnA N p (KOf p motifs) A ↔ ∀ m ∈ motifs, ¬ ∀ s, A s → (perc N m).Mem s := by
  constructor
  · rintro ⟨_, _, hno⟩ m hmm hall
    obtain ⟨s, hs, hms⟩ := (own_motif_iff_succ N A hA m (hm m hmm)).2 hall
    exact hno s hs ⟨hAp s hs, m, hmm, hms⟩
  · intro h
    refine ⟨hA, hAp, ?_⟩
    rintro s hs ⟨_, m, hmm, hms⟩
    exact h m hmm ((own_motif_iff_succ N A hA m (hm m hmm)).1 ⟨s, hs, hms⟩)

def asyncTS (N : Net n) : AttrTest.TS (State n) (Fin n) := ⟨fun v s t => t = step N s v⟩

theorem asyncTS_reach (N : Net n) (s t : State n) : (asyncTS N).Reach s t ↔ Reach N s t := by
  refine ⟨fun h => ?_, Closed.reach (X := (asyncTS N).Reach s) (fun _ hu i => hu.tail ⟨i, rfl⟩) .refl⟩
  induction h with
  | refl => exact .refl s
  | tail _ hst ih => obtain ⟨v, rfl⟩ := hst; exact .tail v ih

variable {N : Net n}

/-- exit `return None` of the real loop: the specification answers `none` -/
theorem exit_none_symTest {pivot : State n} {avoid0 : Finset (State n)} {st : Finset (State n) × Finset (State n)}
    (h : AttrTest.Good (asyncTS N) pivot avoid0 st) (hmeet : (st.1 ∩ st.2).Nonempty)
    (avoid : List (State n)) (hav : ∀ t, t ∈ avoid ↔ t ∈ avoid0) :
    symTest N pivot avoid = none := by
  obtain ⟨t, ht, hr⟩ := AttrTest.exit_none h hmeet
  exact (symTest_none N pivot avoid).2 ⟨t, (asyncTS_reach N pivot t).1 hr, (hav t).2 ht⟩

/-- exit `return reach_set` of the real loop: the specification answers with the same set of states -/
theorem exit_some_symTest (ops : AttrTest.Ops (asyncTS N)) {pivot : State n} {avoid0 : Finset (State n)}
    {st : Finset (State n) × Finset (State n)}
    (h : AttrTest.Good (asyncTS N) pivot avoid0 st) (hdisj : st.1 ∩ st.2 = ∅)
    (hclosed : ∀ v, ops.postOut v st.1 = ∅)
    (avoid : List (State n)) (hav : ∀ t, t ∈ avoid ↔ t ∈ avoid0) :
    ∃ R, symTest N pivot avoid = some R ∧ ∀ t, t ∈ R ↔ t ∈ st.1 := by
  obtain ⟨hset, hno⟩ := AttrTest.exit_some ops h hdisj hclosed
  exact ⟨_, (symTest_some ..).2 ⟨fun t hr hta => hno t ((hav t).1 hta) ((asyncTS_reach N pivot t).2 hr), rfl⟩,
    fun t => by rw [mem_reachSet, hset t, asyncTS_reach]⟩

end Balm.Impl
