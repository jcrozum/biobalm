import Balm.AttrTerm
import Balm.Cand
import Balm.Concrete
import Balm.Depth
import Balm.Dnf
import Balm.Dynamics
import Balm.Enum
import Balm.Expr
import Balm.Filter
import Balm.Impl.ASeeds
import Balm.Impl.Asp
import Balm.Impl.Attr
import Balm.Impl.Block
import Balm.Impl.Cache
import Balm.Impl.CandModel
import Balm.Impl.Control
import Balm.Impl.Diagram
import Balm.Impl.Judge
import Balm.Impl.Nfvs
import Balm.Impl.SkipExcl
import Balm.Impl.Solver
import Balm.Impl.Strict
import Balm.Impl.SymLoop
import Balm.Impl.Scc
import Balm.Key
import Balm.Ldoi
import Balm.MaxT
import Balm.Partition
import Balm.PartitionC
import Balm.Perc
import Balm.ProdNet
import Balm.SDm
import Balm.Siphon
import Balm.Skip
import Balm.Space
import Balm.Src
import Balm.ToPN
import Balm.Trans
import Balm.TransNet
