import BalmProofs.AttrTest
import BalmProofs.BlockSpec
import BalmProofs.Bfs
import BalmProofs.CandSpec
import BalmProofs.ContractSpec
import BalmProofs.Drivers
import BalmProofs.DriversSpec
import BalmProofs.ControlSound
import BalmProofs.JudgeSpec
import BalmProofs.ReachSpec
import BalmProofs.StrictSpec
import BalmProofs.SubgraphSpec
import BalmProofs.SymLoopSpec
import BalmProofs.Bridges
import BalmProofs.SizeBound
import BalmProofs.Expands
import BalmProofs.PlainInv
import BalmProofs.Builds
import BalmProofs.SubNetSpec
import BalmProofs.FallbackSpec
import BalmProofs.WeakSpec
import BalmProofs.Props.C01
import BalmProofs.Props.C02
import BalmProofs.Props.C03
import BalmProofs.Props.C04
import BalmProofs.Props.C05
import BalmProofs.Props.C06
import BalmProofs.Props.C07
import BalmProofs.Props.C08
import BalmProofs.Props.C09
import BalmProofs.Props.C10
import BalmProofs.Props.C11
import BalmProofs.Props.C12
import BalmProofs.Props.C13
import BalmProofs.Props.C14
import BalmProofs.Props.C15
import BalmProofs.Props.C16
import BalmProofs.Props.C17
import BalmProofs.Props.C18
import BalmProofs.Props.C19
import BalmProofs.Props.C20
