import Balm.Impl.Control
import Balm.Impl.Strict
import Balm.Impl.Solver
import Balm.Impl.Asp
import Balm.Depth
import Balm.Impl.CandModel
import Balm.Impl.SkipExcl
import Balm.Impl.Nfvs
import Balm.Impl.Block
import Balm.Impl.ASeeds
import Balm.Impl.SymLoop
import Balm.Impl.Scc
import Balm.TransNet
/-!
# `balmdriver` – line protocol between the Python harness and the Lean model

One command per input line, one reply line per command (batch: the harness writes all lines,
closes stdin and reads all replies).  The definitions executed here are the ones the theorems
of `Balm`/`BalmProofs` are about.
-/
open Balm Balm.Impl

partial def parseE (toks : List String) : Option (BExpr × List String) :=
  match toks with
  | [] => none
  | t :: rest =>
    let bin (mk : BExpr → BExpr → BExpr) : Option (BExpr × List String) := do
      let (a, r) ← parseE rest
      let (b, r2) ← parseE r
      pure (mk a b, r2)
    match t with
    | "T" => some (.const true, rest)
    | "F" => some (.const false, rest)
    | "!" => do let (a, r) ← parseE rest; pure (.not a, r)
    | "&" => bin .and
    | "|" => bin .or
    | "^" => bin .xor
    | "=" => bin .iff
    | ">" => bin .imp
    | "?" => do
      let (a, r) ← parseE rest
      let (b, r2) ← parseE r
      let (c, r3) ← parseE r2
      pure (.cond a b c, r3)
    | v =>
      if v.startsWith "v" then (v.drop 1).toNat?.map fun i => (.var i, rest) else none

def showSpace {n : Nat} (p : Space n) : String :=
  String.mk (p.toList.map fun c => match c with | none => '-' | some false => '0' | some true => '1')

def showState {n : Nat} (s : State n) : String :=
  String.mk (s.toList.map fun b => if b then '1' else '0')

def parseSpace (n : Nat) (s : String) : Option (Space n) :=
  let cs := s.toList
  if cs.length == n && cs.all (fun c => c == '-' || c == '0' || c == '1') then
    some (Vector.ofFn fun i : Fin n =>
      match cs[i.val]? with
      | some '0' => some false
      | some '1' => some true
      | _ => none)
  else none

def parseState (n : Nat) (s : String) : Option (State n) :=
  let cs := s.toList
  if cs.length == n && cs.all (fun c => c == '0' || c == '1') then
    some (Vector.ofFn fun i : Fin n => cs[i.val]? == some '1')
  else none

def sortStrs (l : List String) : List String := (l.toArray.qsort (· < ·)).toList

def optNat (x : String) : Option (Option Nat) :=
  if x == "-" then some none else x.toNat?.map some

structure Session where
  n : Nat
  ctx : Ctx n
  diag : Diag n
  atts : Option (List (List (State n)))
  exprs : Vector BExpr n
  ranks : List Nat := []

def showOutcome : Outcome → String
  | .ok true => "true"
  | .ok false => "false"
  | .err => "err"

def dumpDiag {n : Nat} (d : Diag n) : String :=
  let ns := (List.range d.size).map fun i =>
    s!"{i}:{showSpace (d.space i)}:{d.depth i}:{if d.isExp i then 1 else 0}:{if d.skipped.contains i then 1 else 0}"
  let ps := d.pairs.toArray.qsort (fun a b => a.1 < b.1 || (a.1 == b.1 && a.2 < b.2)) |>.toList
  let es := ps.map fun (u, v) =>
    let ms := (d.core.edges.filter fun e => e.1 == u && e.2.1 == v).map fun e => showSpace e.2.2
    s!"{u}>{v}[{String.intercalate "," ms}]"
  String.intercalate " " ns ++ " | " ++ String.intercalate " " es

def getAtts (S : Session) : Session × List (List (State S.n)) :=
  match S.atts with
  | some a => (S, a)
  | none =>
    let a := attractors S.ctx.N
    ({ S with atts := some a }, a)

def showAttr {n : Nat} (A : List (State n)) : String :=
  String.intercalate "," (sortStrs (A.map showState))

def parseSpaces (n : Nat) (l : List String) : Option (List (Space n)) := l.mapM (parseSpace n)

def parseDump (n : Nat) (toks : List String) : Option (Dump n) := do
  let nodeToks := toks.takeWhile (· ≠ "|")
  let edgeToks := (toks.dropWhile (· ≠ "|")).drop 1
  let nodes ← nodeToks.mapM fun t =>
    match t.splitOn ":" with
    | [_, sp, dp, ex, sk] => do
      let p ← parseSpace n sp
      let d ← dp.toNat?
      pure ({ space := p, depth := d, expanded := ex == "1", skipped := sk == "1" } : DNode n)
    | _ => none
  let edges ← edgeToks.mapM fun t =>
    match t.splitOn ">" with
    | [u, rest] =>
      match rest.splitOn "[" with
      | [v, ms] => do
        let u ← u.toNat?
        let v ← v.toNat?
        let ms ← ((ms.dropRight 1).splitOn ",").mapM (parseSpace n)
        pure (u, v, ms)
      | _ => none
    | _ => none
  pure { nodes := nodes, edges := edges }

def verdict (o : Option String) : String := match o with | none => "OK" | some r => "FAIL " ++ r

def parseFins (n : Nat) (s : String) : List (Fin n) :=
  if s == "-" then [] else (s.splitOn ",").filterMap fun x => x.toNat?.bind fun k => if h : k < n then some ⟨k, h⟩ else none

/-- `CAND node greedy threshold limit nfvs retained0 keys0 ; avoid… ; ret/limit/states …` -/
def handleCand (S : Session) (toks : List String) : String :=
  let n := S.n
  let N := S.ctx.N
  let head := toks.takeWhile (· ≠ ";")
  let rest1 := (toks.dropWhile (· ≠ ";")).drop 1
  let avoidT := rest1.takeWhile (· ≠ ";")
  let transT := (rest1.dropWhile (· ≠ ";")).drop 1
  match head with
  | [nodeS, greedyS, thrS, limS, nfvsS, ret0S, keys0S] =>
    match parseSpace n nodeS, thrS.toNat?, limS.toNat?, parseSpace n ret0S, parseSpaces n avoidT with
    | some node, some thr, some lim, some ret0, some avoid =>
      let nfvs := parseFins n nfvsS
      let keys0 := parseFins n keys0S
      let entries := transT.filterMap fun t => match t.splitOn "/" with
        | [r, l, sts] => (do
            let r ← parseSpace n r
            let l ← l.toNat?
            let ss ← (if sts == "" then some [] else (sts.splitOn ",").mapM (parseState n))
            pure (r, l, ss))
        | _ => none
      if entries.length != transT.length then "bad" else
      -- validate the transcript against the specification of the solver
      let badEntry := entries.find? fun (r, l, ss) =>
        let full := reducedFixedPoints N r node avoid
        !(ss.all full.contains) || ss.eraseDups.length != ss.length || ss.length != min (max 1 l) full.length
      match badEntry with
      | some (r, l, _) => s!"ORACLE-BAD {showSpace r}/{l}"
      | none =>
        let heur := heuristicRetained N node nfvs avoid
        if !nfvs.isEmpty && heur != ret0 then s!"HEUR-DIFF {showSpace heur}" else
        let solve (r : Space n) (l : Nat) : List (State n) :=
          match entries.find? fun e => e.1 == r && e.2.1 == l with
          | some e => e.2.2
          | none => []
        let (out, calls) := candidatesModel solve { threshold := thr, limit := lim } node avoid.isEmpty nfvs ret0 keys0 (greedyS == "1")
        let cs := String.intercalate " " (calls.map fun c => s!"{showSpace c.1}/{c.2}")
        match out with
        | .err => "err | " ++ cs
        | .ok l => "ok " ++ String.intercalate "," (l.map showState) ++ " | " ++ cs
    | _, _, _, _, _ => "bad"
  | _ => "bad"

def handle (S : Session) (toks : List String) : Session × String :=
  let n := S.n
  let N := S.ctx.N
  let bad := (S, "bad")
  match toks with
  | ["PERC", sp] => match parseSpace n sp with
    | some p => (S, showSpace (perc N p))
    | none => bad
  | ["ISTRAP", sp] => match parseSpace n sp with
    | some p => (S, if isTrapB N p then "1" else "0")
    | none => bad
  | ["TRAPS"] => (S, String.intercalate " " (sortStrs ((trapSpaces N).map showSpace)))
  | ["INPUTS"] => (S, String.intercalate " " ((inputs N).map fun i => toString i.val))
  | ["MAX", sp, r] => match parseSpace n sp with
    | some p => (S, String.intercalate " " ((sortedMax N p (if r == "1" then S.ctx.srcs else [])).map showSpace))
    | none => bad
  | ["MIN", sp] => match parseSpace n sp with
    | some p => (S, String.intercalate " " (sortStrs ((minTrapsIn N p).map showSpace)))
    | none => bad
  | ["ATTRS"] =>
    let (S', a) := getAtts S
    (S', String.intercalate " | " (a.map showAttr))
  | ["REACH", st] => match parseState n st with
    | some s => (S, showAttr (reachSet N s))
    | none => bad
  | "OWNX" :: sp :: succs => match parseSpace n sp, parseSpaces n succs with
    | some p, some qs =>
      let (S', a) := getAtts S
      let own := ownAttrs a p qs
      (S', String.intercalate " " ((List.range a.length).filter (fun k => own.contains (a[k]?.getD [])) |>.map toString))
    | _, _ => bad
  | "CHECK" :: rest => match parseDump n rest with
    | some d => (S, verdict (judgeStrict S.ctx d))
    | none => bad
  | "WEAK" :: rest => match parseDump n rest with
    | some d => (S, verdict (judgeWeak S.ctx d))
    | none => bad
  | "CHECKND" :: rest => match parseDump n rest with
    | some d => (S, verdict (judgeStrict S.ctx d false))
    | none => bad
  | "LEAVES" :: rest => match parseDump n rest with
    | some d => (S, verdict (judgeLeaves S.ctx d))
    | none => bad
  | "COMPLETE" :: rest => match parseDump n rest with
    | some d => (S, verdict (judgeComplete d))
    | none => bad
  | "TRUECOMPLETE" :: st :: rest => match st.toNat?, parseDump n rest with
    | some st, some d => (S, verdict (judgeTrueComplete d st))
    | _, _ => bad
  | "FALSESTUB" :: st :: rest => match st.toNat?, parseDump n rest with
    | some st, some d => (S, verdict (judgeFalseHasStub d st))
    | _, _ => bad
  | "FIND" :: sp :: rest => match parseSpace n sp, parseDump n rest with
    | some p, some d => (S, match d.find p with | some i => toString i | none => "none")
    | _, _ => bad
  | "SUBGRAPH" :: rest =>
    let a := rest.takeWhile (· ≠ "||")
    let b := (rest.dropWhile (· ≠ "||")).drop 1
    match parseDump n a, parseDump n b with
    | some a, some b => (S, s!"{isSubgraph a b} {subgraphSpec a b}")
    | _, _ => bad
  | "DEPTHS" :: k :: es => match k.toNat?, es.mapM (fun (t : String) => match t.splitOn ">" with
        | [u, v] => (do let u ← u.toNat?; let v ← v.toNat?; pure (u, v) : Option (Nat × Nat))
        | _ => none) with
    | some k, some es =>
      (S, String.intercalate " " ((List.range k).map fun i => toString (longestTo es.eraseDups k i)))
    | _, _ => bad
  | ["DRIVERS", asm, tgt, internal, bound, forb] =>
    match parseSpace n asm, parseSpace n tgt, optNat bound with
    | some a, some t, some b =>
      let fl : List (Fin n) := if forb == "-" then [] else
        (forb.splitOn ",").filterMap fun x => x.toNat?.bind fun k => if h : k < n then some ⟨k, h⟩ else none
      let r := findDrivers N a t (internal == "1") b fl
      (S, String.intercalate " " (sortStrs (r.map showSpace)))
    | _, _, _ => bad
  | ["FORCES", prev, drv, motif] =>
    match parseSpace n prev, parseSpace n drv, parseSpace n motif with
    | some p, some d, some m => (S, verdict (judgeForces N p d m))
    | _, _, _ => bad
  | "SUCCS" :: tgt :: rest => match parseSpace n tgt, parseDump n rest with
    | some t, some d =>
      let r := successionsOf d t
      (S, if r == [[]] then "EMPTY" else
        String.intercalate " ; " (sortStrs (r.map fun su => String.intercalate "," (su.map showSpace))))
    | _, _ => bad
  | "STRICT" :: sp :: order => match parseSpace n sp with
    | some p =>
      let ord : List (Fin n) := order.filterMap fun x => x.toNat?.bind fun k => if h : k < n then some ⟨k, h⟩ else none
      (S, showSpace (percStrict N p (if ord.isEmpty then List.finRange n else ord)))
    | none => bad
  | ["CONFLICTS", sp] => match parseSpace n sp with
    | some p => (S, String.intercalate " " ((conflictsOf N p).map fun i => toString i.val))
    | none => bad
  | ["CONSTFN"] => (S, String.intercalate " " (((List.finRange n).filter (isConstFn N)).map fun i => toString i.val))
  | ["TT"] => (S, String.intercalate " " ((List.finRange n).map fun i =>
      String.mk ((allStates n).map fun s => if N.f i s then '1' else '0')))
  | ["DEPS", sp] => match parseSpace n sp with
    | some p =>
      let es := (List.finRange n).flatMap fun u => (List.finRange n).flatMap fun v =>
        (if depB N p u v false then [s!"{u.val}>{v.val}:+"] else []) ++ (if depB N p u v true then [s!"{u.val}>{v.val}:-"] else [])
      (S, String.intercalate " " es)
    | none => bad
  | ["NFVSCERT", sp, nf, ranks, cols] => match parseSpace n sp with
    | some p =>
      let rs := (ranks.splitOn ",").filterMap (·.toNat?)
      if rs.length != n || cols.length != n then bad else
      let c : NCert n := { rank := fun i => rs.getD i.val 0, col := fun i => cols.toList.getD i.val '0' == '1' }
      let nfvs := parseFins n nf
      (S, if checkNfvs N p nfvs c then "OK" else
        match badEdge N p nfvs c with
        | some (u, v) => s!"FAIL {u.val} {v.val}"
        | none => "FAIL")
    | none => bad
  | ["FLIPTT", mask] =>
    -- truth tables of the syntactically re-encoded network `flipExprs` (C17, `ofExprs_flipExprs`)
    if mask.length != n then bad else
    let m : Vector Bool n := Vector.ofFn fun i => mask.toList.getD i.val '0' == '1'
    let N' := Net.ofExprs (flipExprs S.exprs m)
    (S, String.intercalate " " ((List.finRange n).map fun i =>
      String.mk ((allStates n).map fun s => if N'.f i s then '1' else '0')))
  | ["STATES"] => (S, String.intercalate " " ((allStates n).map showState))
  | "SOLVE" :: pr :: rev :: ens :: srcs :: avoid =>
    match parseSpace n ens, parseSpaces n avoid with
    | some e, some av =>
      let sl : List (Fin n) := if srcs == "-" then [] else
        (srcs.splitOn ",").filterMap fun x => x.toNat?.bind fun k => if h : k < n then some ⟨k, h⟩ else none
      let prb := if pr == "min" then Problem.min else if pr == "max" then Problem.max else Problem.fix
      (S, String.intercalate " " (sortStrs ((solveRef N (rev == "1") prb e av sl).map showSpace)))
    | _, _ => bad
  | "REDFP" :: ret :: ens :: avoid =>
    match parseSpace n ret, parseSpace n ens, parseSpaces n avoid with
    | some r, some e, some av => (S, String.intercalate " " (sortStrs ((reducedFixedPoints N r e av).map showState)))
    | _, _, _ => bad
  | "PNCHECK" :: ens :: ts =>
    match parseSpace n ens, ts.mapM (fun (t : String) => match t.splitOn ":" with
        | [v, d, c] => (do
            let v ← v.toNat?
            let c ← parseSpace n c
            if h : v < n then pure ({ v := ⟨v, h⟩, up := d == "up", c := c } : Trans n) else none)
        | _ => none) with
    | some e, some tl => (S, verdict (faithfulOnB N e tl))
    | _, _ => bad
  | "ASP" :: pr :: ens :: srcs :: rest =>
    let avoidT := rest.takeWhile (· ≠ "||")
    let transT := (rest.dropWhile (· ≠ "||")).drop 1
    match parseSpace n ens, parseSpaces n avoidT, transT.mapM (fun (t : String) => match t.splitOn ":" with
        | [v, d, c] => (do
            let v ← v.toNat?
            let c ← parseSpace n c
            if h : v < n then pure ({ v := ⟨v, h⟩, up := d == "up", c := c } : Trans n) else none)
        | _ => none) with
    | some e, some av, some tl =>
      let sl : List (Fin n) := if srcs == "-" then [] else
        (srcs.splitOn ",").filterMap fun x => x.toNat?.bind fun k => if h : k < n then some ⟨k, h⟩ else none
      let prb := if pr == "min" then Problem.min else if pr == "max" then Problem.max else Problem.fix
      (S, String.intercalate " | " (renderProgram (trapProgram tl prb e av sl)))
    | _, _, _ => bad
  | "FPASP" :: ret :: ens :: rest =>
    let avoidT := rest.takeWhile (· ≠ "||")
    let transT := (rest.dropWhile (· ≠ "||")).drop 1
    match parseSpace n ret, parseSpace n ens, parseSpaces n avoidT, transT.mapM (fun (t : String) => match t.splitOn ":" with
        | [v, d, c] => (do
            let v ← v.toNat?
            let c ← parseSpace n c
            if h : v < n then pure ({ v := ⟨v, h⟩, up := d == "up", c := c } : Trans n) else none)
        | _ => none) with
    | some r, some e, some av, some tl =>
      (S, String.intercalate " | " (renderProgram (fpProgram (reducePN tl r) e av)))
    | _, _, _, _ => bad
  | "PNCHECKV" :: v :: ts =>
    match v.toNat?, ts.mapM (fun (t : String) => match t.splitOn ":" with
        | [v, d, c] => (do
            let v ← v.toNat?
            let c ← parseSpace n c
            if h : v < n then pure ({ v := ⟨v, h⟩, up := d == "up", c := c } : Trans n) else none)
        | _ => none) with
    | some v, some tl => if h : v < n then (S, verdict (faithfulVarB N tl ⟨v, h⟩)) else bad
    | _, _ => bad
  | "RELAXSEQ" :: k :: es => match k.toNat?, es.mapM (fun (t : String) => match t.splitOn ">" with
        | [u, v] => (do let u ← u.toNat?; let v ← v.toNat?; pure (u, v) : Option (Nat × Nat))
        | _ => none) with
    | some k, some es =>
      -- the model of `_ensure_edge`/`_update_node_depth`: one `updateDepth` per inserted edge
      let run := es.foldl (fun (acc : List (Nat × Nat) × (Nat → Nat) × List String) e =>
          let E := if acc.1.contains e then acc.1 else e :: acc.1
          let r := Balm.Depth.updateDepth E acc.2.1 e.1 e.2
          (E, r.1, acc.2.2 ++ [String.intercalate "," ((List.range k).map fun i => toString (r.1 i)) ++ (if r.2 then ":done" else ":fuel")]))
        ([], (fun _ => 0), [])
      (S, String.intercalate " | " run.2.2)
    | _, _ => bad
  | "CAND" :: rest => (S, handleCand S rest)
  | "SKIPEXCL" :: sp :: ids :: rest => match parseSpace n sp, parseDump n rest with
    | some p, some d =>
      let e := if ids == "-" then [] else (ids.splitOn ",").filterMap (·.toNat?)
      (S, String.intercalate " " (sortStrs ((skipExclusions d e p).map showSpace).eraseDups))
    | _, _ => bad
  | "ADOPT" :: rest => match parseDump n rest with
    | some d => ({ S with diag := d.toDiag }, "OK")
    | none => bad
  | ["CFG", lim] => match lim.toNat? with
    | some L => ({ S with ctx := { S.ctx with motifLimit := L } }, "OK")
    | none => bad
  | ["SDINIT"] =>
    let d := initDiag S.ctx
    ({ S with diag := d }, dumpDiag d)
  | ["DUMP"] => (S, dumpDiag S.diag)
  | ["EXPAND", i] => match i.toNat? with
    | some i =>
      let (d, okk) := expandNode S.ctx S.diag i
      ({ S with diag := d }, (if okk then "none " else "err ") ++ dumpDiag d)
    | none => bad
  | ["BFS", st, lv, sz] => match st.toNat?, optNat lv, optNat sz with
    | some st, some lv, some sz =>
      let (d, o) := expandBfs S.ctx S.diag st lv sz
      ({ S with diag := d }, showOutcome o ++ " " ++ dumpDiag d)
    | _, _, _ => bad
  | ["BLOCK", sz] => match optNat sz with
    | some sz =>
      let (d, o) := expandBlock S.ctx S.diag sz
      ({ S with diag := d }, showOutcome o ++ " " ++ dumpDiag d)
    | none => bad
  | "RANKS" :: rs => match rs.mapM (fun (t : String) => t.toNat?) with
    | some l => ({ S with ranks := l }, "OK")
    | none => bad
  | ["SCC"] =>
    let rank : Fin n → Nat := fun i => S.ranks[i.val]?.getD i.val
    let (d, o) := expandScc rank (n + 2) S.ctx S.diag
    ({ S with diag := d }, showOutcome o ++ " " ++ dumpDiag d)
  | "FALLBACK" :: sp :: succs => match parseSpace n sp, parseSpaces n succs with
    | some p, some qs => (S, String.intercalate " / " (sortStrs ((fallbackAttrs N p qs).map showAttr)))
    | _, _ => bad
  | "SYMSEEDS" :: mode :: sp :: rest =>
    -- mode: "loop0" / "loop1" = compute_attractors_symbolic(seeds_only = 0/1), "node" = seed logic of node_attractor_seeds
    let motT := rest.takeWhile (· ≠ ";")
    let candT := (rest.dropWhile (· ≠ ";")).drop 1
    match parseSpace n sp, parseSpaces n motT, candT.mapM (parseState n) with
    | some p, some ms, some cs =>
      let out := if mode == "node" then nodeSeeds N p ms cs else symbolicSeeds N p ms cs (mode == "loop1")
      let sets := match out.sets with
        | none => "none"
        | some l => String.intercalate " / " (l.map showAttr)
      (S, String.intercalate "," (out.seeds.map showState) ++ " | " ++ sets ++ " | hyp=" ++ (if symHypB N p ms cs then "1" else "0"))
    | _, _, _ => bad
  | "ASEEDS" :: sz :: rest =>
    let minsT := rest.takeWhile (· ≠ ";")
    let bits := (rest.dropWhile (· ≠ ";")).drop 1
    match optNat sz, parseSpaces n minsT with
    | some sz, some ms =>
      let (d, o, left) := expandASeeds S.ctx S.diag sz ms (bits.map (· == "1"))
      ({ S with diag := d }, showOutcome o ++ " " ++ dumpDiag d ++ (if left.isEmpty then "" else " LEFTOVER"))
    | _, _ => bad
  | "BLOCKX" :: maa :: opt :: sz :: clean => match optNat sz with
    | some sz =>
      let (d, o, left) := expandBlockX S.ctx S.diag { checkMaa := maa == "1", optSrc := opt == "1", szLimit := sz } (clean.map (· == "1"))
      ({ S with diag := d }, showOutcome o ++ " " ++ dumpDiag d ++ (if left.isEmpty then "" else " LEFTOVER"))
    | none => bad
  | ["DFS", st, lv, sz] => match st.toNat?, optNat lv, optNat sz with
    | some st, some lv, some sz =>
      let (d, o) := expandDfs S.ctx S.diag st lv sz
      ({ S with diag := d }, showOutcome o ++ " " ++ dumpDiag d)
    | _, _, _ => bad
  | ["TARGET", sp, sz] => match parseSpace n sp, optNat sz with
    | some t, some sz =>
      let (d, o) := expandToTarget S.ctx S.diag t sz
      ({ S with diag := d }, showOutcome o ++ " " ++ dumpDiag d)
    | _, _ => bad
  | "MINSP" :: st :: sz :: skip :: mins => match st.toNat?, optNat sz, parseSpaces n mins with
    | some st, some sz, some ms =>
      let (d, o) := expandMinimalWith S.ctx S.diag st sz (skip == "1") ms
      ({ S with diag := d }, showOutcome o ++ " " ++ dumpDiag d)
    | _, _, _ => bad
  | "SKIPMIN" :: i :: mins => match i.toNat?, parseSpaces n mins with
    | some i, some ms =>
      let (d, r) := skipToMinimalWith S.ctx S.diag i ms
      ({ S with diag := d }, (if r then "true " else "false ") ++ dumpDiag d)
    | _, _ => bad
  | "SKIPREM" :: mins => match parseSpaces n mins with
    | some ms =>
      let (d, k) := skipRemainingWith S.ctx S.diag ms
      ({ S with diag := d }, toString k ++ " " ++ dumpDiag d)
    | none => bad
  | _ => bad

def mkSession (n : Nat) (fns : List BExpr) : Option Session :=
  if h : fns.length = n then
    let es : Vector BExpr n := ⟨fns.toArray, by simpa using h⟩
    let N := Net.ofExprs es
    let ctx := Ctx.mk' N 100000
    some { n := n, ctx := ctx, diag := initDiag ctx, atts := none, exprs := es }
  else none

def emptySession : Session :=
  let N : Net 0 := Net.ofExprs #v[]
  let ctx := Ctx.mk' N 100000
  { n := 0, ctx := ctx, diag := initDiag ctx, atts := none, exprs := #v[] }

partial def loop (h : IO.FS.Stream) (out : IO.FS.Stream) (S : Session) : IO Unit := do
  let line ← h.getLine
  if line.isEmpty then return ()
  let toks := (line.trim.splitOn " ").filter (· ≠ "")
  match toks with
  | [] => out.putStrLn "bad"; loop h out S
  | "NET" :: nstr :: rest =>
    match nstr.toNat? with
    | none => out.putStrLn "bad"; loop h out S
    | some n =>
      let groups := (String.intercalate " " rest).splitOn ";"
      let fns := groups.mapM fun g =>
        match parseE ((g.trim.splitOn " ").filter (· ≠ "")) with
        | some (e, []) => some e
        | _ => none
      match fns.bind (mkSession n) with
      | some S' => out.putStrLn "OK"; loop h out S'
      | none => out.putStrLn "bad"; loop h out S
  | _ =>
    let (S', reply) := handle S toks
    out.putStrLn reply
    loop h out S'

def main : IO Unit := do
  let out ← IO.getStdout
  loop (← IO.getStdin) out emptySession
  out.flush
